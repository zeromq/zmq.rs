import ZmqVerif.Model.Basic
import ZmqVerif.Model.Wire
import ZmqVerif.Model.Decoder
import ZmqVerif.Model.Tables
import ZmqVerif.Spec.Rfc23
import ZmqVerif.Gen.Tables
import ZmqVerif.Lemmas.Compat
import ZmqVerif.Lemmas.Bytes
import ZmqVerif.Lemmas.Command
import ZmqVerif.Lemmas.Decode
import ZmqVerif.Lemmas.Rfc
import ZmqVerif.Lemmas.Segment
import ZmqVerif.Lemmas.NoPanic
import ZmqVerif.Lemmas.Retained
import ZmqVerif.Props.C01
import ZmqVerif.Props.C02
import ZmqVerif.Props.C03
import ZmqVerif.Model.Ip
import ZmqVerif.Model.Endpoint
import ZmqVerif.Spec.EndpointGrammar
import ZmqVerif.Lemmas.Radix
import ZmqVerif.Lemmas.Endpoint
import ZmqVerif.Lemmas.IpLaws
import ZmqVerif.Lemmas.Ip6Laws
import ZmqVerif.Props.C19
import ZmqVerif.Model.FairQueue
import ZmqVerif.Lemmas.Fold
import ZmqVerif.Lemmas.FQHeap
import ZmqVerif.Lemmas.FQStep
import ZmqVerif.Lemmas.FQInv
import ZmqVerif.Lemmas.FQFair
import ZmqVerif.Lemmas.FQCons
import ZmqVerif.Lemmas.FQProgress
import ZmqVerif.Lemmas.FQReturns
import ZmqVerif.Lemmas.FQWaker
import ZmqVerif.Props.C05
import ZmqVerif.Props.C06
import ZmqVerif.Model.Sink
import ZmqVerif.Model.Sockets
import ZmqVerif.Lemmas.Sockets
import ZmqVerif.Model.World
import ZmqVerif.Lemmas.WorldMaps
import ZmqVerif.Lemmas.WorldProgress
import ZmqVerif.Props.C07
import ZmqVerif.Props.C08
import ZmqVerif.Props.C14
import ZmqVerif.Spec.PubSub
import ZmqVerif.Props.C11
import ZmqVerif.Props.C12
import ZmqVerif.Props.C13
import ZmqVerif.Spec.Compat
import ZmqVerif.Props.C04
import ZmqVerif.Props.C09
import ZmqVerif.Props.C10
import ZmqVerif.Model.Lifecycle
import ZmqVerif.Lemmas.Own
import ZmqVerif.Props.C16
import ZmqVerif.Props.C17
import ZmqVerif.Props.C15
import ZmqVerif.Model.Net
import ZmqVerif.Lemmas.NetMaps
import ZmqVerif.Props.C18
import ZmqVerif.Props.C20
