import ZmqVerif.Model.Basic
/-!
# Spec — an independent, strict reading of RFC 23 (ZMTP 3.0) framing

Written from the RFC text, not from the library: a frame is a flags octet whose
bits 7‥3 are zero, bit 2 = COMMAND, bit 1 = LONG, bit 0 = MORE; a one-octet size
(short) or an eight-octet network-order size (long); then the body.  The
property additionally demands the canonical width ("one-byte size only for
bodies of at most 255 bytes, eight-byte otherwise"), which this parser enforces.
-/
namespace Zmq.Rfc
open Zmq

structure RFrame where
  more : Bool
  command : Bool
  body : Bytes
deriving Repr, DecidableEq

def parseFrame : Bytes → Option (RFrame × Bytes)
  | [] => none
  | fl :: rest =>
    if fl &&& 0xF8 ≠ 0 then none else
    let more := fl &&& 1 ≠ 0
    let long := fl &&& 2 ≠ 0
    let cmd := fl &&& 4 ≠ 0
    if cmd ∧ more then none else        -- a command frame never carries MORE
    if long then
      if rest.length < 8 then none else
      let n := beNat (rest.take 8)
      let r := rest.drop 8
      if n ≤ 255 then none               -- a long size for a short body is not canonical
      else if r.length < n then none
      else some ({ more := more, command := cmd, body := r.take n }, r.drop n)
    else
      match rest with
      | [] => none
      | sz :: r =>
        if r.length < sz.toNat then none
        else some ({ more := more, command := cmd, body := r.take sz.toNat }, r.drop sz.toNat)

theorem parseFrame_shorter {bs : Bytes} {f : RFrame} {rest : Bytes}
    (h : parseFrame bs = some (f, rest)) : rest.length < bs.length := by
  cases bs with
  | nil => cases h
  | cons fl r0 =>
    -- every refusal is `if c then none else …`: a result says that all the guards on its path passed
    simp only [parseFrame, Option.ite_none_left_eq_some] at h
    obtain ⟨-, -, h⟩ := h
    by_cases c3 : fl &&& 2 ≠ 0
    · simp only [if_pos c3, Option.ite_none_left_eq_some, Option.some.injEq, Prod.mk.injEq] at h
      obtain ⟨-, -, -, -, rfl⟩ := h
      simp only [List.length_drop, List.length_cons]; omega
    · cases r0 with
      | nil => simp [c3] at h
      | cons sz r =>
        simp only [if_neg c3, Option.ite_none_left_eq_some, Option.some.injEq, Prod.mk.injEq] at h
        obtain ⟨-, -, rfl⟩ := h
        simp only [List.length_drop, List.length_cons]; omega

/-- parse a whole buffer into frames; `none` if anything is malformed or left over -/
def parseFrames (bs : Bytes) : Option (List RFrame) :=
  if _hb : bs = [] then some [] else
  match hp : parseFrame bs with
  | none => none
  | some (f, rest) =>
    match parseFrames rest with
    | none => none
    | some fs => some (f :: fs)
termination_by bs.length
decreasing_by exact parseFrame_shorter hp

/-- the frames of one application message: MORE on all but the last, no COMMAND bit -/
def tagMore : List Bytes → List RFrame
  | [] => []
  | [f] => [{ more := false, command := false, body := f }]
  | f :: g :: fs => { more := true, command := false, body := f } :: tagMore (g :: fs)

/-- group a frame sequence back into messages (a message ends at the first frame without MORE);
`none` if the sequence ends inside a message or contains a command frame -/
def groupMsgs : List RFrame → List Bytes → Option (List (List Bytes))
  | [], [] => some []
  | [], _ :: _ => none
  | f :: fs, acc =>
    if f.command then none
    else if f.more then groupMsgs fs (acc ++ [f.body])
    else (groupMsgs fs []).map ((acc ++ [f.body]) :: ·)

/-! ### command bodies and the greeting -/

/-- `property = name-len name value-len(4) value`, repeated to the end of the body -/
def parsePropsRfc : Nat → Bytes → Option (List (Bytes × Bytes))
  | 0, _ => none
  | _+1, [] => some []
  | fuel+1, n :: rest =>
    if n = 0 then none else                          -- property names are 1..255 octets
    if rest.length < n.toNat + 4 then none else
    let name := rest.take n.toNat
    let r := rest.drop n.toNat
    let vlen := beNat (r.take 4)
    let r := r.drop 4
    if r.length < vlen then none else
    (parsePropsRfc fuel (r.drop vlen)).map ((name, r.take vlen) :: ·)

/-- command body = name-len name properties -/
def parseCommandBody (body : Bytes) : Option (Bytes × List (Bytes × Bytes)) :=
  match body with
  | [] => none
  | n :: rest =>
    if n = 0 ∨ rest.length < n.toNat then none else
    (parsePropsRfc (rest.length + 1) (rest.drop n.toNat)).map (fun ps => (rest.take n.toNat, ps))

/-- a whole buffer that is exactly one command frame -/
def parseCommandFrame (bs : Bytes) : Option (Bytes × List (Bytes × Bytes)) :=
  match parseFrame bs with
  | some (f, []) => if f.command ∧ ¬ f.more then parseCommandBody f.body else none
  | _ => none

/-- the 64-octet greeting: signature `FF` 8×any `7F`, version, 20-octet mechanism
(upper-case name padded with NULs), as-server, 31 zero octets of filler -/
def validGreeting (g : Bytes) (major minor : UInt8) (mech : Bytes) (asServer : Bool) : Bool :=
  g.length == 64
  && g[0]? == some 0xff && g[9]? == some 0x7f
  && ((g.drop 1).take 8).all (· == 0)                 -- padding the library sends as zeros
  && g[10]? == some major && g[11]? == some minor
  && (g.drop 12).take mech.length == mech
  && ((g.drop (12 + mech.length)).take (20 - mech.length)).all (· == 0)
  && mech.length ≤ 20 && mech.all (fun c => 65 ≤ c.toNat ∧ c.toNat ≤ 90)
  && g[32]? == some (if asServer then 1 else 0)
  && (g.drop 33).all (· == 0)

end Zmq.Rfc
