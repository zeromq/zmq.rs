import ZmqVerif.Model.Decoder
import ZmqVerif.Model.Sink
import ZmqVerif.Model.Sockets
import ZmqVerif.Model.Tables
/-!
# The executable composition: sockets + scripted pipes + user futures, one poll at a time

`pollAny : World → FutSt → World × FutSt × POut` (one poll of a user future; `Driver.worldOp`
adds the pipe events) is nothing but the composition of the small
sub-models the property theorems are about — `decode` (L2), `sendPoll`/`trySend` (L3), the
fair-queue algorithm (L4), the handshake (`attachPoll`), the socket cores of `Model.Sockets` (L6) — so
that the correspondence check exercises the very definitions the theorems speak of, through
the same entry points the real sockets use.  It mirrors **the code that exists**, with the
repairs D12/D13 in (an ended stream, a failed write in REQ/ROUTER/REP `send` and a failed REQ
`recv` all forget the peer through `peerDisconnected`).

Hash-map iteration orders (`scc::HashMap`, `HashSet`) are abstracted by insertion order; the
generators compare only what does not depend on them (per-pipe wires at quiescent points,
sorted where a set is announced).
-/
namespace Zmq.W
open Zmq

/-- a peer identity.  Auto-assigned identities (random UUIDs in the real code) are the
placeholders `autoId n`; the harness translates between the real random bytes and the
placeholder at every boundary (results, wire taps, revealed bytes). -/
abbrev Ident := Bytes

def autoId (n : Nat) : Ident := List.replicate 15 0xA7 ++ [UInt8.ofNat n]

/-- who is registered to be woken when a pipe becomes readable -/
inductive RWaker
  | user
  | fq (sock : Nat) (ticket : Nat) (key : Ident)
deriving DecidableEq, Repr

structure Pipe where
  inbuf : Bytes := []
  eof : Bool := false
  rderr : Bool := false
  w : WPipe := {}
  seen : Nat := 0
  rDropped : Bool := false
  wDropped : Bool := false
  rwaker : Option RWaker := none
  /-- kind of the scripted write error: `BrokenPipe` (true) or anything else -/
  wrBroken : Bool := true
deriving Repr

/-- `FramedRead`: the transport's read half + decoder + read buffer -/
structure Rd where
  pipe : Nat
  dec : Dec := Dec.init
  buf : Bytes := []
deriving Repr

/-- `FramedWrite`: the transport's write half + write buffer -/
structure Wr where
  pipe : Nat
  buf : Bytes := []
deriving Repr

/-! ### tiny association maps -/

def lookup {α} : List (Nat × α) → Nat → Option α
  | [], _ => none
  | e :: t, k => if e.1 == k then some e.2 else lookup t k
/-- replace in place or append -/
def insert {α} : List (Nat × α) → Nat → α → List (Nat × α)
  | [], k, v => [(k, v)]
  | e :: t, k, v => if e.1 == k then (k, v) :: t else e :: insert t k v
def erase {α} (m : List (Nat × α)) (k : Nat) : List (Nat × α) := m.filter (·.1 != k)

def ilookup {α} : List (Ident × α) → Ident → Option α
  | [], _ => none
  | e :: t, k => if e.1 == k then some e.2 else ilookup t k
/-- `upsert`: replace in place or append -/
def iinsert {α} : List (Ident × α) → Ident → α → List (Ident × α)
  | [], k, v => [(k, v)]
  | e :: t, k, v => if e.1 == k then (k, v) :: t else e :: iinsert t k v
def ierase {α} (m : List (Ident × α)) (k : Ident) : List (Ident × α) := m.filter (·.1 != k)

abbrev Pipes := List (Nat × Pipe)

def getPipe (ps : Pipes) (k : Nat) : Pipe := (lookup ps k).getD {}
def setPipe (ps : Pipes) (k : Nat) (p : Pipe) : Pipes := insert ps k p

def dropR (ps : Pipes) (k : Nat) : Pipes :=
  let p := getPipe ps k; setPipe ps k { p with rDropped := true, rwaker := none }
def dropW (ps : Pipes) (k : Nat) : Pipes :=
  let p := getPipe ps k; setPipe ps k { p with wDropped := true }

/-! ### reading: `FramedRead2::poll_next` -/

inductive ReadRes
  | item (i : Item)
  | pending
  | eof                      -- `Ready(None)`
  | err (e : Err)            -- `Ready(Some(Err(e)))`
deriving Repr

def decodeOnce (rd : Rd) : DecodeOut := decode rd.dec rd.buf

/-- one `poll_next` of a framed reader; on `Pending` the pipe's read waker is `who` -/
def readerPoll : Nat → Pipes → Rd → RWaker → ReadRes × Pipes × Rd
  | 0, ps, rd, _ => (.pending, ps, rd)
  | fuel+1, ps, rd, who =>
    match decodeOnce rd with
    | .item i d b => (.item i, ps, { rd with dec := d, buf := b })
    | .fail e d b => (.err e, ps, { rd with dec := d, buf := b })
    | .panic _ d b => (.err .other, ps, { rd with dec := d, buf := b })   -- unreachable (C03)
    | .none d b =>
      let rd := { rd with dec := d, buf := b }
      let p := getPipe ps rd.pipe
      if p.inbuf.isEmpty then
        if p.rderr then (.err .io, ps, rd)
        else if p.eof then
          if rd.buf.isEmpty then (.eof, ps, rd)
          else match decodeOnce rd with      -- `decode_eof`
            | .item i d b => (.item i, ps, { rd with dec := d, buf := b })
            | .fail e d b => (.err e, ps, { rd with dec := d, buf := b })
            | .panic _ d b => (.err .other, ps, { rd with dec := d, buf := b })
            | .none d b =>
              if b.isEmpty then (.eof, ps, { rd with dec := d, buf := b })
              else (.err .io, ps, { rd with dec := d, buf := b })   -- "bytes remaining in stream"
        else (.pending, setPipe ps rd.pipe { p with rwaker := some who }, rd)
      else
        let n := min 8192 p.inbuf.length
        readerPoll fuel (setPipe ps rd.pipe { p with inbuf := p.inbuf.drop n })
          { rd with buf := rd.buf ++ p.inbuf.take n } who

def readFuel (ps : Pipes) (rd : Rd) : Nat := (getPipe ps rd.pipe).inbuf.length + 4

/-! ### writing through a `Wr` -/

def wrSendPoll (ps : Pipes) (wr : Wr) (st : SendSt) : Pipes × Wr × SendSt × IoRes :=
  let p := getPipe ps wr.pipe
  let (w', b', st', r) := sendPoll hwmDefault p.w wr.buf st
  (setPipe ps wr.pipe { p with w := w' }, { wr with buf := b' }, st', r)

def wrTrySend (ps : Pipes) (wr : Wr) (enc : Bytes) : Pipes × Wr × TrySendRes :=
  let p := getPipe ps wr.pipe
  let (w', b', r) := trySend hwmDefault p.w wr.buf enc
  (setPipe ps wr.pipe { p with w := w' }, { wr with buf := b' }, r)

/-! ### sockets -/

structure Socket where
  typ : SockType
  ident : Option Bytes := none
  /-- peer table: write halves (`peers` / `subscribers`) -/
  peers : List (Ident × Wr) := []
  /-- REQ keeps the read half inside the peer -/
  reqRd : List (Ident × Rd) := []
  rr : List Ident := []
  fqCounter : Nat := 0
  fqHeap : List (Nat × Ident) := []
  fqStreams : List (Ident × Rd) := []
  current : Option Ident := none
  envelope : Option Msg := none
  /-- PUB / XPUB: subscriptions per subscriber -/
  subsOf : List (Ident × List Bytes) := []
  /-- PUB: one spawned reader task per subscriber, with its read half; `false` = told to stop -/
  readers : List (Nat × Ident × Rd × Bool) := []
  readerSeq : Nat := 0
  /-- SUB: the subscription set -/
  subs : List Bytes := []
  /-- the application dropped the socket; only futures that still hold its backend see it -/
  dead : Bool := false
deriving Repr

def hasFq (t : SockType) : Bool :=
  match t with
  | .pull | .sub | .dealer | .router | .rep | .xpub => true
  | _ => false

def popMinE : List (Nat × Ident) → Option ((Nat × Ident) × List (Nat × Ident))
  | [] => none
  | e :: es =>
    match popMinE es with
    | none => some (e, [])
    | some (m, rest) => if e.1 ≤ m.1 then some (e, es) else some (m, e :: rest)

/-- `QueueInner::insert` -/
def fqInsert (s : Socket) (k : Ident) (rd : Rd) : Socket :=
  { s with fqStreams := iinsert s.fqStreams k rd, fqHeap := (s.fqCounter, k) :: s.fqHeap,
           fqCounter := s.fqCounter + 1 }

/-- `QueueInner::remove`: the stream (and with it the read half) is dropped -/
def fqRemove (ps : Pipes) (s : Socket) (k : Ident) : Pipes × Socket :=
  match ilookup s.fqStreams k with
  | some rd => (dropR ps rd.pipe, { s with fqStreams := ierase s.fqStreams k })
  | none => (ps, s)

/-- `peer_disconnected`, per backend, as coded -/
def peerDisconnected (ps : Pipes) (s : Socket) (k : Ident) : Pipes × Socket :=
  let ps := match ilookup s.peers k with
    | some wr => dropW ps wr.pipe
    | none => ps
  let s := { s with peers := ierase s.peers k }
  match s.typ with
  | .req =>
    match ilookup s.reqRd k with
    | some rd => (dropR ps rd.pipe, { s with reqRd := ierase s.reqRd k })
    | none => (ps, s)
  | .pub =>
    -- the subscriber entry owns the stop channel: its reader task ends at the next drain
    (ps, { s with subsOf := ierase s.subsOf k,
                  readers := s.readers.map (fun e => if e.2.1 == k then (e.1, e.2.1, e.2.2.1, false) else e) })
  | .xpub => let (ps, s) := fqRemove ps s k; (ps, { s with subsOf := ierase s.subsOf k })
  | .push => (ps, s)
  | _ => fqRemove ps s k

inductive FqRes
  | pending
  | got (k : Ident) (r : ReadRes)     -- `Ready(Some((k, res)))`: an item or an error
deriving Repr

/-- `FairQueue::poll_next` (`block_on_no_clients = true`).

Since fix D17 the real loop YIELDS (wakes its caller, returns `Pending`) when the next event
belongs to a stream that already returned `Pending` in this call, instead of polling that stream
again; the caller is then polled again at once.  In this engine a poll is one uninterrupted step
(no byte arrives inside it) and the harness re-polls a future that woke itself, so "yield and be
re-polled" and "go on in the same call" are observationally the same here: the model goes on.
The yield itself — the waker, the bound on sections per call — is the subject of `Model.FairQueue`
and of the `fq` engine, where it is modelled exactly. -/
def fqPoll : Nat → Pipes → Nat → Socket → FqRes × Pipes × Socket
  | 0, ps, _, s => (.pending, ps, s)
  | fuel+1, ps, sid, s =>
    match popMinE s.fqHeap with
    | none => (.pending, ps, s)
    | some ((t, k), rest) =>
      let s := { s with fqHeap := rest }
      match ilookup s.fqStreams k with
      | none => fqPoll fuel ps sid s                       -- stale event
      | some rd =>
        let s := { s with fqStreams := ierase s.fqStreams k }
        let (r, ps, rd) := readerPoll (readFuel ps rd) ps rd (.fq sid t k)
        match r with
        | .pending => fqPoll fuel ps sid { s with fqStreams := s.fqStreams ++ [(k, rd)] }
        | .eof =>
          -- peer gone: the stream is not put back, and the queue's owner is told
          -- (`on_stream_end` → the backend's `peer_disconnected`): the peer is forgotten
          let (ps, s) := peerDisconnected (dropR ps rd.pipe) s k
          fqPoll fuel ps sid s
        | res =>
          (.got k res, ps, { s with fqHeap := (s.fqCounter, k) :: s.fqHeap, fqCounter := s.fqCounter + 1,
                                    fqStreams := s.fqStreams ++ [(k, rd)] })

/-- registration at the end of a successful handshake (`MultiPeerBackend::peer_connected`),
after SUB has re-announced its subscriptions -/
def register (ps : Pipes) (s : Socket) (k : Ident) (rd : Rd) (wr : Wr) : Pipes × Socket :=
  -- `upsert`: an existing entry with the same identity is replaced (its write half dropped)
  let ps := match ilookup s.peers k with
    | some old => dropW ps old.pipe
    | none => ps
  let s := { s with peers := iinsert s.peers k wr }
  match s.typ with
  | .req =>
    let ps := match ilookup s.reqRd k with
      | some old => dropR ps old.pipe
      | none => ps
    (ps, { s with reqRd := iinsert s.reqRd k rd, rr := s.rr ++ [k] })
  | .rep =>
    let ps := match ilookup s.fqStreams k with
      | some old => dropR ps old.pipe
      | none => ps
    (ps, fqInsert s k rd)
  | .pub =>
    -- a replaced subscriber entry drops its stop channel: the old reader task ends at the next drain
    (ps, { s with subsOf := iinsert s.subsOf k [],
                  readers := s.readers.map (fun e => if e.2.1 == k then (e.1, e.2.1, e.2.2.1, false) else e)
                    ++ [(s.readerSeq, k, rd, true)],
                  readerSeq := s.readerSeq + 1 })
  | .xpub =>
    let ps := match ilookup s.fqStreams k with
      | some old => dropR ps old.pipe
      | none => ps
    (ps, fqInsert { s with subsOf := iinsert s.subsOf k [] } k rd)
  | .push => (dropR ps rd.pipe, { s with rr := s.rr ++ [k] })      -- no fair queue: the read half is dropped
  | _ =>
    let ps := match ilookup s.fqStreams k with
      | some old => dropR ps old.pipe
      | none => ps
    (ps, fqInsert { s with rr := s.rr ++ [k] } k rd)

/-! ### handshake (`util::peer_connected`) -/

inductive AStage
  | sendGreeting (st : SendSt)
  | readGreeting
  | sendReady (st : SendSt)
  | readReady
  | resub (ident : Ident) (todo : List Bytes) (st : Option SendSt)    -- SUB re-announces its set
deriving Repr

/-- result of a user future, as the harness prints it -/
abbrev Res := String

def errS (e : Err) : String :=
  match e with
  | .command => "Codec.Command" | .greeting => "Codec.Greeting" | .mechanism => "Codec.Mechanism"
  | .decode => "Codec.Decode" | .io => "Codec.Io" | .codecOther => "Codec.Other"
  | .other => "Other" | .unsupportedVersion => "UnsupportedVersion" | .peerIdentity => "PeerIdentity"
  | .noMessage => "NoMessage" | .returnToSender => "ReturnToSender" | .bufferFull => "BufferFull"
  | .network => "Network"

def propLookup (ps : Props) (k : Bytes) : Option Bytes :=
  -- a `HashMap`: the last occurrence of a key wins
  (ps.reverse.find? (·.1 == k)).map (·.2)

/-- `ready_exchange` on the peer's READY: the identity under which it is admitted, or the error.
`fresh` is the next auto-assigned identity. -/
def admitPeer (localT : SockType) (props : Props) (fresh : Nat) : Except Err (Ident × Nat) :=
  match propLookup props kSocketType with
  | none => .error .other
  | some tn =>
    match SockType.parse tn with
    | none => .error .other
    | some other =>
      let ident : Except Err (Ident × Nat) :=
        match propLookup props kIdentity with
        | none => .ok (autoId fresh, fresh + 1)
        | some i =>
          if i.isEmpty then .ok (autoId fresh, fresh + 1)
          else if i.length > 255 then .error .peerIdentity
          else .ok (i, fresh)
      match ident with
      | .error e => .error e
      | .ok r =>
        match compatible localT other with
        | some true => .ok r
        | some false => .error .other
        | none => .error .other     -- the real call panicked (C03/C04 obligations forbid it)

inductive FutSt
  | attach (sock pipe : Nat) (stage : AStage) (rd : Rd) (wr : Wr)
  | recv (sock : Nat)
  | reqRecv (sock : Nat)
  /-- round-robin send (PUSH / DEALER): message, and the peer being written to -/
  | sendRR (sock : Nat) (m : Msg) (cur : Option (Ident × SendSt))
  /-- REQ / REP / ROUTER: target chosen, writing -/
  | sendTo (sock : Nat) (k : Ident) (st : SendSt) (setCurrent : Bool)
  | reqSend (sock : Nat) (m : Msg)
  | repSend (sock : Nat) (m : Msg)
  | routerSend (sock : Nat) (m : Msg)
  | pubSend (sock : Nat) (m : Msg)
  | subOp (sock : Nat) (isSub : Bool) (topic : Bytes) (started : Bool) (todo : List Ident)
      (cur : Option (Ident × SendSt)) (failed : Bool)
  | close (sock : Nat)
  /-- `proxy(front, back, capture)`: `phase` 0 = in `select!`, 1 = writing the copy to the capture
  socket, 2 = forwarding; `fromFront`/`m` = the message in hand; `sub` = the send in progress -/
  | proxy (front back : Nat) (cap : Option Nat) (phase : Nat) (fromFront : Bool) (m : Msg) (sub : FutSt)
  | fail (r : Res)
  | done
deriving Repr

structure World where
  pipes : Pipes := []
  socks : List (Nat × Socket) := []
  futs : List (Nat × FutSt) := []
  fresh : Nat := 0
deriving Repr

def getSock (w : World) (k : Nat) : Option Socket := lookup w.socks k
def setSock (w : World) (k : Nat) (s : Socket) : World := { w with socks := insert w.socks k s }

/-- value of a user future -/
inductive Val
  | okUnit
  | okMsg (m : Msg)
  | okId (i : Ident)
  | okErrs (n : Nat)
  | err (e : Err)
  | errReturn (m : Msg)
  | panic
deriving Repr

inductive POut
  | pending
  | ready (v : Val)
deriving Repr

/-- run one poll of the handshake future -/
def attachPoll : Nat → World → Nat → Nat → AStage → Rd → Wr → World × FutSt × POut
  | 0, w, sid, pid, st, rd, wr => (w, .attach sid pid st rd wr, .pending)
  | fuel+1, w, sid, pid, stage, rd, wr =>
    let failWith (w : World) (e : Err) : World × FutSt × POut :=
      -- the `FramedIo` is dropped with the future's locals: both halves are released
      ({ w with pipes := dropW (dropR w.pipes rd.pipe) wr.pipe }, .done, .ready (.err e))
    match getSock w sid with
    | none => failWith w .other
    | some s =>
    match stage with
    | .sendGreeting st =>
      let (ps, wr, st, r) := wrSendPoll w.pipes wr st
      let w := { w with pipes := ps }
      match r with
      | .pending => (w, .attach sid pid (.sendGreeting st) rd wr, .pending)
      | .error => failWith w .io
      | .done => attachPoll fuel w sid pid .readGreeting rd wr
    | .readGreeting =>
      let (r, ps, rd) := readerPoll (readFuel w.pipes rd) w.pipes rd .user
      let w := { w with pipes := ps }
      match r with
      | .pending => (w, .attach sid pid .readGreeting rd wr, .pending)
      | .eof => failWith w .other
      | .err e => failWith w e
      | .item (.greeting g) =>
        -- `negotiate_version`: peer.version >= (3, 0), lexicographically
        if g.major.toNat > 3 ∨ (g.major.toNat = 3 ∧ g.minor.toNat ≥ 0) then
          let enc := encodeReady s.typ s.ident false
          attachPoll fuel w sid pid (.sendReady (.feeding enc)) rd wr
        else failWith w .unsupportedVersion
      | .item _ => failWith w .other
    | .sendReady st =>
      let (ps, wr, st, r) := wrSendPoll w.pipes wr st
      let w := { w with pipes := ps }
      match r with
      | .pending => (w, .attach sid pid (.sendReady st) rd wr, .pending)
      | .error => failWith w .io
      | .done => attachPoll fuel w sid pid .readReady rd wr
    | .readReady =>
      let (r, ps, rd) := readerPoll (readFuel w.pipes rd) w.pipes rd .user
      let w := { w with pipes := ps }
      match r with
      | .pending => (w, .attach sid pid .readReady rd wr, .pending)
      | .eof => failWith w .other
      | .err e => failWith w e
      | .item (.command props) =>
        match admitPeer s.typ props w.fresh with
        | .error e => failWith w e
        | .ok (ident, fresh') =>
          let w := { w with fresh := fresh' }
          if s.typ = .sub then attachPoll fuel w sid pid (.resub ident s.subs none) rd wr
          else if s.dead then
            -- the backend dies with this future: what it registered is released at once
            ({ w with pipes := dropW (dropR w.pipes rd.pipe) wr.pipe }, .done, .ready (.okId ident))
          else
            let (ps, s) := register w.pipes s ident rd wr
            (setSock { w with pipes := ps } sid s, .done, .ready (.okId ident))
      | .item _ => failWith w .other
    | .resub ident todo cur =>
      match cur with
      | some st =>
        let (ps, wr, st, r) := wrSendPoll w.pipes wr st
        let w := { w with pipes := ps }
        match r with
        | .pending => (w, .attach sid pid (.resub ident todo (some st)) rd wr, .pending)
        | .error =>
          -- the connection failed before it could be told the subscriptions: dropped, not registered
          ({ w with pipes := dropW (dropR w.pipes rd.pipe) wr.pipe }, .done, .ready (.okId ident))
        | .done => attachPoll fuel w sid pid (.resub ident todo none) rd wr
      | none =>
        match todo with
        | t :: rest =>
          attachPoll fuel w sid pid (.resub ident rest (some (.feeding (encodeMsg (subsMsg true t))))) rd wr
        | [] =>
          if s.dead then
            ({ w with pipes := dropW (dropR w.pipes rd.pipe) wr.pipe }, .done, .ready (.okId ident))
          else
            let (ps, s) := register w.pipes s ident rd wr
            (setSock { w with pipes := ps } sid s, .done, .ready (.okId ident))

/-- `recv` of the fair-queue sockets: one poll -/
def recvPoll : Nat → World → Nat → World × POut
  | 0, w, _ => (w, .pending)
  | fuel+1, w, sid =>
    match getSock w sid with
    | none => (w, .ready (.err .other))
    | some s =>
      let (r, ps, s) := fqPoll (s.fqHeap.length + 2) w.pipes sid s
      let w := setSock { w with pipes := ps } sid s
      match r with
      | .pending => (w, .pending)
      | .got k (.item (.message m)) =>
        match s.typ with
        | .router => (w, .ready (.okMsg (routerIn k m)))
        | .rep =>
          match repSplit m with
          | none => (w, .ready (.err .other))
          | some (env, data) =>
            (setSock w sid { s with envelope := some env, current := some k }, .ready (.okMsg data))
        | .xpub =>
          let subs := (ilookup s.subsOf k).getD []
          let s := if (ilookup s.subsOf k).isSome then { s with subsOf := iinsert s.subsOf k (onMsg subs m) } else s
          (setSock w sid s, .ready (.okMsg m))
        | _ => (w, .ready (.okMsg m))
      | .got _ (.item _) => recvPoll fuel w sid          -- greeting / command items are ignored
      | .got k (.err e) =>
        let (ps, s) := peerDisconnected w.pipes s k
        let w := setSock { w with pipes := ps } sid s
        if s.typ = .router then recvPoll fuel w sid      -- ROUTER swallows the error and goes on
        else (w, .ready (.err e))
      | .got _ _ => (w, .pending)

/-- enough fuel for one poll of `recv`: every ignored item (command, greeting) consumes at least
two buffered bytes of some stream, every swallowed error removes a stream — the loop cannot turn
more often than there are bytes waiting (a flood of commands in one read is consumed in ONE poll) -/
def recvFuel (w : World) (sid : Nat) : Nat :=
  match getSock w sid with
  | none => 1
  | some s =>
    64 + s.fqStreams.length +
      (s.fqStreams.map (fun e => e.2.buf.length + (getPipe w.pipes e.2.pipe).inbuf.length)).sum

/-! ### REQ `recv` -/

def reqRecvPoll (w : World) (sid : Nat) : World × POut :=
  match getSock w sid with
  | none => (w, .ready (.err .other))
  | some s =>
    match s.current with
    | none => (w, .ready (.err .other))                       -- no request in progress
    | some k =>
      match ilookup s.reqRd k with
      | none => (setSock w sid { s with current := none }, .ready (.err .other))    -- "Server disconnected"
      | some rd =>
        let (r, ps, rd) := readerPoll (readFuel w.pipes rd) w.pipes rd .user
        let s := { s with reqRd := iinsert s.reqRd k rd }
        let w := { w with pipes := ps }
        match r with
        | .pending => (setSock w sid s, .pending)            -- the marker stays: the recv is still owed
        | res =>
          let w := setSock w sid { s with current := none }
          match res with
          | .item (.message m) =>
            match reqUnwrap m with
            | some r => (w, .ready (.okMsg r))
            | none => (w, .ready (.err .other))
          | .item _ => (w, .ready (.err .other))              -- "Received non-message frame"
          | .err e =>
            -- the connection has failed: the peer is forgotten (both halves released)
            let (ps, s') := peerDisconnected w.pipes { s with current := none } k
            (setSock { w with pipes := ps } sid s', .ready (.err e))
          | _ =>
            -- … or ended
            let (ps, s') := peerDisconnected w.pipes { s with current := none } k
            (setSock { w with pipes := ps } sid s', .ready (.err .noMessage))

/-! ### sends -/

/-- writing to a chosen peer (REQ / REP / ROUTER): `peer.send_queue.send(msg).await?` -/
def sendToPoll (w : World) (sid : Nat) (k : Ident) (st : SendSt) (setCurrent : Bool) :
    World × FutSt × POut :=
  match getSock w sid with
  | none => (w, .done, .ready (.err .other))
  | some s =>
    match ilookup s.peers k with
    | none => (w, .done, .ready (.err .other))
    | some wr =>
      let (ps, wr, st, r) := wrSendPoll w.pipes wr st
      let s := { s with peers := iinsert s.peers k wr }
      let w := { w with pipes := ps }
      match r with
      | .pending => (setSock w sid s, .sendTo sid k st setCurrent, .pending)
      | .error =>
        -- the connection has failed: the peer is forgotten, as in the round-robin senders
        let (ps, s') := peerDisconnected w.pipes s k
        (setSock { w with pipes := ps } sid s', .done, .ready (.err .io))
      | .done =>
        let s := if setCurrent then { s with current := some k } else s
        (setSock w sid s, .done, .ready .okUnit)

/-- `ReqSocket::send`, first poll -/
def reqSendStart : Nat → World → Nat → Msg → World × FutSt × POut
  | 0, w, _, _ => (w, .done, .ready (.err .other))
  | fuel+1, w, sid, m =>
    match getSock w sid with
    | none => (w, .done, .ready (.err .other))
    | some s =>
      if s.current.isSome then (w, .done, .ready (.errReturn m))
      else match s.rr with
        | [] => (w, .done, .ready (.errReturn m))
        | k :: rest =>
          if (ilookup s.peers k).isSome then
            let w := setSock w sid { s with rr := rest ++ [k] }          -- pushed back BEFORE writing
            sendToPoll w sid k (.feeding (encodeMsg (reqWrap m))) true
          else reqSendStart fuel (setSock w sid { s with rr := rest }) sid m

/-- `RepSocket::send`, first poll -/
def repSendStart (w : World) (sid : Nat) (m : Msg) : World × FutSt × POut :=
  match getSock w sid with
  | none => (w, .done, .ready (.err .other))
  | some s =>
    match s.current with
    | none => (w, .done, .ready (.errReturn m))
    | some k =>
      let s := { s with current := none }
      if (ilookup s.peers k).isSome then
        let env := s.envelope.getD []
        let w := setSock w sid { s with envelope := none }
        sendToPoll w sid k (.feeding (encodeMsg (repReply env m))) false
      else (setSock w sid s, .done, .ready (.errReturn m))

/-- `RouterSocket::send`, first poll -/
def routerSendStart (w : World) (sid : Nat) (m : Msg) : World × FutSt × POut :=
  if m.length ≤ 1 then (w, .done, .ready (.err .other))   -- an error since fix D19 (was `assert!(message.len() > 1)`)
  else match routerOut m with
    | none => (w, .done, .ready .panic)
    | some (t, rest) =>
      if t.isEmpty then (w, .done, .ready (.err .other))   -- empty → a fresh random identity → not found
      else if t.length > 255 then (w, .done, .ready (.err .peerIdentity))
      else match getSock w sid with
        | none => (w, .done, .ready (.err .other))
        | some s =>
          if (ilookup s.peers t).isSome then sendToPoll w sid t (.feeding (encodeMsg rest)) false
          else (w, .done, .ready (.err .other))

/-- `send_round_robin` (PUSH / DEALER) -/
def sendRRPoll : Nat → World → Nat → Msg → Option (Ident × SendSt) → World × FutSt × POut
  | 0, w, _, _, _ => (w, .done, .ready (.err .other))
  | fuel+1, w, sid, m, cur =>
    match getSock w sid with
    | none => (w, .done, .ready (.err .other))
    | some s =>
      match cur with
      | none =>
        match s.rr with
        | [] => (w, .done, .ready (.errReturn m))
        | k :: rest =>
          let w := setSock w sid { s with rr := rest }
          if (ilookup s.peers k).isSome then sendRRPoll fuel w sid m (some (k, .feeding (encodeMsg m)))
          else sendRRPoll fuel w sid m none                 -- a vanished peer is skipped
      | some (k, st) =>
        match ilookup s.peers k with
        | none => (w, .done, .ready (.err .other))
        | some wr =>
          let (ps, wr, st, r) := wrSendPoll w.pipes wr st
          let s := { s with peers := iinsert s.peers k wr }
          let w := { w with pipes := ps }
          match r with
          | .pending => (setSock w sid s, .sendRR sid m (some (k, st)), .pending)
          | .done => (setSock w sid { s with rr := s.rr ++ [k] }, .done, .ready .okUnit)
          | .error =>
            let (ps, s) := peerDisconnected w.pipes s k
            (setSock { w with pipes := ps } sid s, .done, .ready (.err .io))

/-- `PubSocket::send` / `XPubSocket::send`: never waits -/
def pubSend (w : World) (sid : Nat) (m : Msg) : World × POut :=
  match getSock w sid with
  | none => (w, .ready (.err .other))
  | some s =>
    let topic := m.headD []
    let enc := encodeMsg m
    let (ps, peers, dead) := s.peers.foldl (fun (acc : Pipes × List (Ident × Wr) × List Ident) e =>
      let (ps, peers, dead) := acc
      let subs := (ilookup s.subsOf e.1).getD []
      if hit subs topic then
        let (ps, wr, r) := wrTrySend ps e.2 enc
        let dead := match r with
          | .ioError => if (getPipe ps wr.pipe).wrBroken then dead ++ [e.1] else dead
          | _ => dead
        (ps, peers ++ [(e.1, wr)], dead)
      else (ps, peers ++ [e], dead)) (w.pipes, [], [])
    let s := { s with peers := peers }
    let (ps, s) := dead.foldl (fun (acc : Pipes × Socket) k => peerDisconnected acc.1 acc.2 k) (ps, s)
    (setSock { w with pipes := ps } sid s, .ready .okUnit)

/-- `SubSocket::subscribe` / `unsubscribe` -/
def subOpPoll : Nat → World → Nat → Bool → Bytes → Bool → List Ident → Option (Ident × SendSt) → Bool →
    World × FutSt × POut
  | 0, w, _, _, _, _, _, _, _ => (w, .done, .ready (.err .other))
  | fuel+1, w, sid, isSub, topic, started, todo, cur, failed =>
    match getSock w sid with
    | none => (w, .done, .ready (.err .other))
    | some s =>
      if !started then
        let (subs, changed) := if isSub then subAdd s.subs topic else subDel s.subs topic
        let w := setSock w sid { s with subs := subs }
        if changed then subOpPoll fuel w sid isSub topic true (s.peers.map (·.1)) none false
        else (w, .done, .ready .okUnit)
      else match cur with
        | some (k, st) =>
          match ilookup s.peers k with
          | none => subOpPoll fuel w sid isSub topic true todo none failed
          | some wr =>
            let (ps, wr, st, r) := wrSendPoll w.pipes wr st
            let w := setSock { w with pipes := ps } sid { s with peers := iinsert s.peers k wr }
            match r with
            | .pending => (w, .subOp sid isSub topic true todo (some (k, st)) failed, .pending)
            | .done => subOpPoll fuel w sid isSub topic true todo none failed
            | .error => subOpPoll fuel w sid isSub topic true todo none true     -- go on with the others
        | none =>
          match todo with
          | k :: rest =>
            subOpPoll fuel w sid isSub topic true rest (some (k, .feeding (encodeMsg (subsMsg isSub topic)))) failed
          | [] => (w, .done, .ready (if failed then .err .io else .okUnit))

/-! ### dropping a socket, draining spawned tasks, pipe events -/

/-- `Drop` (= `backend.shutdown()` + dropping the fair queue, which releases its streams) -/
def dropSocket (w : World) (sid : Nat) : World :=
  match getSock w sid with
  | none => w
  | some s =>
    let ps := s.peers.foldl (fun ps e => dropW ps e.2.pipe) w.pipes
    let ps := s.fqStreams.foldl (fun ps e => dropR ps e.2.pipe) ps
    let ps := s.reqRd.foldl (fun ps e => dropR ps e.2.pipe) ps
    let s := { s with peers := [], fqStreams := [], reqRd := [], subsOf := [], dead := true,
                      readers := s.readers.map (fun e => (e.1, e.2.1, e.2.2.1, false)) }
    setSock { w with pipes := ps } sid s

/-- run one PUB reader task until it is `Pending` or ends -/
def readerTask : Nat → Pipes → Socket → Ident → Rd → Pipes × Socket × Option Rd
  | 0, ps, s, _, rd => (ps, s, some rd)
  | fuel+1, ps, s, k, rd =>
    let (r, ps, rd) := readerPoll (readFuel ps rd) ps rd .user
    match r with
    | .pending => (ps, s, some rd)
    | .item (.message m) =>
      let s := match ilookup s.subsOf k with
        | some subs => { s with subsOf := iinsert s.subsOf k (onMsg subs m) }
        | none => s
      readerTask fuel ps s k rd
    | .item _ => readerTask fuel ps s k rd
    | _ =>
      let (ps, s) := peerDisconnected ps s k
      (dropR ps rd.pipe, s, none)

/-- let every spawned task run to quiescence -/
def drainSock (ps : Pipes) (s : Socket) : Pipes × Socket :=
  let (ps, s) := s.readers.foldl (fun (acc : Pipes × Socket) e =>
    let (ps, s) := acc
    let (seq, k, _, _) := e
    -- state of this task NOW (an earlier task of the same drain may have stopped it)
    match s.readers.find? (·.1 == seq) with
    | none => (ps, s)
    | some (_, _, rd, alive) =>
      if !alive then (dropR ps rd.pipe, { s with readers := s.readers.filter (·.1 != seq) })
      else
        let (ps, s, r) := readerTask (((getPipe ps rd.pipe).inbuf.length + rd.buf.length) + 4) ps s k rd
        match r with
        | some rd => (ps, { s with readers := s.readers.map (fun x => if x.1 == seq then (seq, k, rd, x.2.2.2) else x) })
        | none => (ps, { s with readers := s.readers.filter (·.1 != seq) })) (ps, s)
  (ps, s)

def drain (w : World) : World :=
  w.socks.foldl (fun w e =>
    match getSock w e.1 with
    | some s => let (ps, s) := drainSock w.pipes s; setSock { w with pipes := ps } e.1 s
    | none => w) w

/-- readiness change on the read side of pipe `k`: the armed waker fires and is consumed -/
def fireRead (w : World) (k : Nat) : World :=
  let p := getPipe w.pipes k
  let w := { w with pipes := setPipe w.pipes k { p with rwaker := none } }
  match p.rwaker with
  | some (.fq sid t key) =>
    match getSock w sid with
    | some s => setSock w sid { s with fqHeap := (t, key) :: s.fqHeap }
    | none => w
  | _ => w

def reveal (w : World) (k : Nat) (b : Bytes) : World :=
  let p := getPipe w.pipes k
  fireRead { w with pipes := setPipe w.pipes k { p with inbuf := p.inbuf ++ b } } k

def setEof (w : World) (k : Nat) : World :=
  let p := getPipe w.pipes k
  fireRead { w with pipes := setPipe w.pipes k { p with eof := true } } k

def setRdErr (w : World) (k : Nat) : World :=
  let p := getPipe w.pipes k
  fireRead { w with pipes := setPipe w.pipes k { p with rderr := true } } k

def setCredit (w : World) (k : Nat) (c : Option Nat) : World :=
  let p := getPipe w.pipes k
  { w with pipes := setPipe w.pipes k { p with w := { p.w with credit := c } } }

def setWrErr (w : World) (k : Nat) (broken : Bool) : World :=
  let p := getPipe w.pipes k
  { w with pipes := setPipe w.pipes k { p with w := { p.w with wrerr := true }, wrBroken := broken } }

/-- a TRANSIENT write error: the next write on the pipe fails (with `BrokenPipe` iff `broken`), later ones succeed -/
def setWrErrOnce (w : World) (k : Nat) (broken : Bool) : World :=
  let p := getPipe w.pipes k
  { w with pipes := setPipe w.pipes k { p with w := { p.w with wrerr := true, once := true }, wrBroken := broken } }

/-- bytes written since the last look -/
def takeWire (w : World) (k : Nat) : World × Bytes :=
  let p := getPipe w.pipes k
  ({ w with pipes := setPipe w.pipes k { p with seen := p.w.wire.length } }, p.w.wire.drop p.seen)

/-! ### one poll of a user future -/

def pollFut (w : World) (f : FutSt) : World × FutSt × POut :=
  match f with
  | .attach sid pid st rd wr => attachPoll 64 w sid pid st rd wr
  | .recv sid => let (w, o) := recvPoll (recvFuel w sid) w sid; (w, (match o with | .pending => .recv sid | _ => .done), o)
  | .reqRecv sid => let (w, o) := reqRecvPoll w sid; (w, (match o with | .pending => .reqRecv sid | _ => .done), o)
  | .sendRR sid m cur => sendRRPoll 64 w sid m cur
  | .sendTo sid k st sc => sendToPoll w sid k st sc
  | .reqSend sid m => reqSendStart 64 w sid m
  | .repSend sid m => repSendStart w sid m
  | .routerSend sid m => routerSendStart w sid m
  | .pubSend sid m => let (w, o) := pubSend w sid m; (w, .done, o)
  | .subOp sid isSub topic started todo cur failed => subOpPoll 64 w sid isSub topic started todo cur failed
  | .close sid => (dropSocket w sid, .done, .ready (.okErrs 0))
  | .proxy _ _ _ _ _ _ _ => (w, .done, .ready (.err .other))     -- handled by `pollAny`
  | .fail _ => (w, .done, .ready (.err .other))
  | .done => (w, .done, .pending)

/-! ### `proxy()` (`src/lib.rs`) -/

/-- the future a `send(m)` on socket `sid` starts as -/
def sendStartFut (w : World) (sid : Nat) (m : Msg) : FutSt :=
  match getSock w sid with
  | none => .fail "no-sock"
  | some s =>
    match s.typ with
    | .pub | .xpub => .pubSend sid m
    | .req => .reqSend sid m
    | .rep => .repSend sid m
    | .router => .routerSend sid m
    | .dealer | .push => .sendRR sid m none
    | _ => .fail "no-send"

/-- the proxy returned (with an error): it owned the sockets, which are dropped with it -/
def proxyEnd (w : World) (a b : Nat) (c : Option Nat) : World :=
  let w := dropSocket (dropSocket w a) b
  match c with
  | some k => dropSocket w k
  | none => w

/-- one poll of the proxy future.  `select!` starts with a pseudo-randomly chosen branch; the
model always tries the frontend first — when no send blocks, every ready message of both
sides has been forwarded by the time the poll returns `Pending`, in either order. -/
def proxyPoll : Nat → World → Nat → Nat → Option Nat → Nat → Bool → Msg → FutSt → World × FutSt × POut
  | 0, w, a, b, c, ph, ff, m, sub => (w, .proxy a b c ph ff m sub, .pending)
  | fuel+1, w, a, b, c, ph, ff, m, sub =>
    if ph = 0 then
      -- select! { frontend.recv(), backend.recv() }
      let (w, o) := recvPoll (recvFuel w a) w a
      match o with
      | .ready (.okMsg msg) =>
        match c with
        | some k => proxyPoll fuel w a b c 1 true msg (sendStartFut w k msg)
        | none => proxyPoll fuel w a b c 2 true msg (sendStartFut w b msg)
      | .ready v => (proxyEnd w a b c, .done, .ready v)
      | .pending =>
        let (w, o) := recvPoll (recvFuel w b) w b
        match o with
        | .ready (.okMsg msg) =>
          match c with
          | some k => proxyPoll fuel w a b c 1 false msg (sendStartFut w k msg)
          | none => proxyPoll fuel w a b c 2 false msg (sendStartFut w a msg)
        | .ready v => (proxyEnd w a b c, .done, .ready v)
        | .pending => (w, .proxy a b c 0 ff m sub, .pending)
    else
      let (w, sub', o) := pollFut w sub
      match o with
      | .pending => (w, .proxy a b c ph ff m sub', .pending)
      | .ready .okUnit =>
        if ph = 1 then proxyPoll fuel w a b c 2 ff m (sendStartFut w (if ff then b else a) m)
        else proxyPoll fuel w a b c 0 ff [] .done
      | .ready v => (proxyEnd w a b c, .done, .ready v)

/-- one poll of any user future -/
def pollAny (w : World) (f : FutSt) : World × FutSt × POut :=
  match f with
  | .proxy a b c ph ff m sub => proxyPoll 64 w a b c ph ff m sub
  | f => pollFut w f

end Zmq.W
