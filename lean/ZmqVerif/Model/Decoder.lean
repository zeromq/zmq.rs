import ZmqVerif.Model.Wire
/-!
# L2 — the decoder: `ZmqCodec::decode`, the greeting / mechanism / command parsers,
and the `FramedRead2::poll_next` loop of asynchronous-codec 0.7

Every Rust operation that can abort is modelled with its abort condition
(`Out.panic site`); the guards are the ones in the code.  `Dec` mirrors the
fields of `ZmqCodec` (`state` + `waiting_for` merged into `DState`, and
`buffered_message`).
-/
namespace Zmq

structure Flags where
  command : Bool
  long : Bool
  more : Bool
deriving Repr, DecidableEq, Inhabited

def Flags.ofByte (b : UInt8) : Flags :=
  { command := b &&& 4 != 0, long := b &&& 2 != 0, more := b &&& 1 != 0 }

/-- `DecoderState` together with `waiting_for` -/
inductive DState
  | greeting
  | header
  | len (f : Flags)
  | body (f : Flags) (n : Nat)
deriving Repr, DecidableEq, Inhabited

/-- `waiting_for` -/
def DState.need : DState → Nat
  | .greeting => 64
  | .header => 1
  | .len f => if f.long then 8 else 1
  | .body _ n => n

def DState.rank : DState → Nat
  | .greeting => 0
  | .header => 0
  | .len _ => 1
  | .body _ _ => 2

structure Dec where
  st : DState
  /-- `buffered_message` (`None` = `[]`) -/
  part : List Bytes
deriving Repr, DecidableEq, Inhabited

/-- `ZmqCodec::new()` -/
def Dec.init : Dec := { st := .greeting, part := [] }
/-- the decoder of a connection whose greeting has been consumed -/
def Dec.framing : Dec := { st := .header, part := [] }

inductive Item
  | greeting (g : Greeting)
  | command (props : Props)            -- name is always READY when parsing succeeds
  | message (frames : List Bytes)
deriving Repr, DecidableEq, Inhabited

/-! ### parsers of the fixed-size and command bodies -/

/-- `ZmqMechanism::try_from(&[u8])` -/
def parseMechanism (field : Bytes) : Out Mechanism :=
  let m := field.takeWhile (· != 0)
  if m = Mechanism.null.name then .ok .null
  else if m = Mechanism.plain.name then .ok .plain
  else if m = Mechanism.curve.name then .ok .curve
  else .err .mechanism

/-- `ZmqGreeting::try_from(Bytes)` -/
def parseGreeting (v : Bytes) : Out Greeting :=
  if v.length ≠ 64 then .err .greeting else do
  let b0 ← index v 0
  let b9 ← index v 9
  if !(b0 == 0xff && b9 == 0x7f) then .err .greeting else do
  let maj ← index v 10
  let min ← index v 11
  if v.length < 32 then .panic .slice else do
  let mech ← parseMechanism ((v.drop 12).take 20)
  let s ← index v 32
  .ok { major := maj, minor := min, mech := mech, asServer := s == 1 }

def validUtf8 (b : Bytes) : Bool := (ByteArray.mk b.toArray).validateUTF8

/-- the `while !buf.is_empty()` loop of `ZmqCommand::try_from`, with the guards of the code -/
def parseProps : Nat → Bytes → Props → Out Props
  | 0, _, acc => .ok acc                       -- unreachable: fuel = length + 1
  | fuel+1, buf, acc =>
    if buf.isEmpty then .ok acc else do
    let (n, buf) ← getU8 buf
    if buf.length < n.toNat then .err .decode else do
    let (name, buf) ← splitTo buf n.toNat
    if !validUtf8 name then .err .decode else do
    if buf.length < 4 then .err .decode else do
    let (vlen, buf) ← getU32 buf
    if buf.length < vlen then .err .decode else do
    let (val, buf) ← splitTo buf vlen
    parseProps fuel buf (acc ++ [(name, val)])

/-- `ZmqCommand::try_from(Bytes)` -/
def parseCommand (body : Bytes) : Out Props :=
  if body.isEmpty then .err .command else do
  let (n, buf) ← getU8 body
  if buf.length < n.toNat then .err .command else do
  let name ← sliceTo buf n.toNat
  if name ≠ kReady then .err .command else do
  let (_, buf) ← splitTo buf n.toNat            -- `buf.advance(command_len)`
  parseProps (buf.length + 1) buf []

/-! ### one transition, one `decode` call, and the run to exhaustion -/

inductive StepOut
  | cont (d : Dec) (buf : Bytes)
  | item (i : Item) (d : Dec) (buf : Bytes)
  | fail (e : Err) (d : Dec) (buf : Bytes)
  | panic (s : Site)
deriving Repr, DecidableEq

/-- lift a parser outcome that happens *after* the decoder already moved on -/
def StepOut.ofOut (o : Out Item) (d : Dec) (buf : Bytes) : StepOut :=
  match o with
  | .ok i => .item i d buf
  | .err e => .fail e d buf
  | .panic s => .panic s

/-- one arm of the `match self.state`.  Written with the abort conditions of the
`bytes` primitives it uses (`src[0]`, `get_u8`, `get_u64`, `split_to`) inlined, so
that "the guard `src.len() >= waiting_for` keeps them in range" is a theorem
(`step_no_panic`), not an assumption. -/
def step (d : Dec) (buf : Bytes) : StepOut :=
  match d.st with
  | .greeting =>
    match buf with
    | [] => .panic .index
    | b0 :: _ =>
      if b0 != 0xff then .fail .decode d buf
      else if buf.length < 64 then .panic .splitTo
      else StepOut.ofOut (parseGreeting (buf.take 64) >>= fun g => .ok (.greeting g))
             { d with st := .header } (buf.drop 64)
  | .header =>
    match buf with
    | [] => .panic .getU8
    | b :: rest => .cont { d with st := .len (Flags.ofByte b) } rest
  | .len f =>
    if f.long then
      if buf.length < 8 then .panic .getU64
      else .cont { d with st := .body f (beNat (buf.take 8)) } (buf.drop 8)
    else
      match buf with
      | [] => .panic .getU8
      | b :: rest => .cont { d with st := .body f b.toNat } rest
  | .body f n =>
    if buf.length < n then .panic .splitTo
    else if f.command then
      StepOut.ofOut (parseCommand (buf.take n) >>= fun p => .ok (.command p))
        { d with st := .header } (buf.drop n)
    else if f.more then
      .cont { st := .header, part := d.part ++ [buf.take n] } (buf.drop n)
    else
      .item (.message (d.part ++ [buf.take n])) { st := .header, part := [] } (buf.drop n)

theorem step_greeting (p : List Bytes) (buf : Bytes) (h : 64 ≤ buf.length) :
    step ⟨.greeting, p⟩ buf =
      if buf.head? ≠ some 0xff then .fail .decode ⟨.greeting, p⟩ buf
      else StepOut.ofOut (parseGreeting (buf.take 64) >>= fun g => .ok (.greeting g))
        ⟨.header, p⟩ (buf.drop 64) := by
  cases buf with
  | nil => simp at h
  | cons b t =>
    have : ¬ t.length + 1 < 64 := by simpa using h
    by_cases hb : b = 0xff <;> simp [step, hb, this]

theorem step_header (p : List Bytes) (b : UInt8) (t : Bytes) :
    step ⟨.header, p⟩ (b :: t) = .cont ⟨.len (Flags.ofByte b), p⟩ t := rfl

theorem step_len_short {f : Flags} (hf : f.long = false) (p : List Bytes) (b : UInt8) (t : Bytes) :
    step ⟨.len f, p⟩ (b :: t) = .cont ⟨.body f b.toNat, p⟩ t := by simp [step, hf]

theorem step_len_long {f : Flags} (hf : f.long = true) (p : List Bytes) (buf : Bytes)
    (h : 8 ≤ buf.length) :
    step ⟨.len f, p⟩ buf = .cont ⟨.body f (beNat (buf.take 8)), p⟩ (buf.drop 8) := by
  simp [step, hf, Nat.not_lt.mpr h]

theorem step_body (f : Flags) (n : Nat) (p : List Bytes) (buf : Bytes) (h : n ≤ buf.length) :
    step ⟨.body f n, p⟩ buf =
      if f.command then
        StepOut.ofOut (parseCommand (buf.take n) >>= fun q => .ok (.command q)) ⟨.header, p⟩ (buf.drop n)
      else if f.more then .cont ⟨.header, p ++ [buf.take n]⟩ (buf.drop n)
      else .item (.message (p ++ [buf.take n])) ⟨.header, []⟩ (buf.drop n) := by
  simp [step, Nat.not_lt.mpr h]

/-- bytes held in the partially assembled message -/
def Dec.held (d : Dec) : Nat := (d.part.map List.length).sum

theorem Out.isPanic_bind_ok {α β} (x : Out α) (f : α → β) : (x >>= fun a => Out.ok (f a)).isPanic = x.isPanic := by
  cases x <;> rfl

/-- what the guard `src.len() >= waiting_for` in front of every transition is for -/
theorem step_short {d : Dec} {buf : Bytes} (h : buf.length < d.st.need) :
    step d buf = .fail .decode d buf ∨ ∃ s, step d buf = .panic s := by
  obtain ⟨st, p⟩ := d
  cases st with
  | greeting =>
    cases buf with
    | nil => exact .inr ⟨_, rfl⟩
    | cons b t =>
      have : t.length + 1 < 64 := h
      by_cases hb : b = 0xff <;> simp [step, hb, this]
  | header =>
    cases buf with
    | nil => exact .inr ⟨_, rfl⟩
    | cons b t => simp [DState.need] at h
  | len f =>
    cases hf : f.long <;> simp only [DState.need, hf, Bool.false_eq_true, ↓reduceIte] at h
    · cases buf with
      | nil => exact .inr ⟨.getU8, by simp [step, hf]⟩
      | cons b t => simp at h
    · exact .inr ⟨.getU64, by simp [step, hf, h]⟩
  | body f n => exact .inr ⟨.splitTo, by simp [step, show buf.length < n from h]⟩

/-- With the bytes it waited for a transition refuses the greeting's first byte and touches nothing, or
consumes exactly `need` bytes, holds at most those in addition, and moves on in the cycle `header → len → body → header`
(the rank clause is what `mu` needs for a body of length 0).  The guard keeps `src[0]`, `get_u8`, `get_u64`, `split_to`
in range: where the transition ends with a parser's outcome `o`, a panic can only be that parser's. -/
theorem step_enough {d : Dec} {buf : Bytes} (h : ¬ buf.length < d.st.need) :
    step d buf = .fail .decode d buf ∨
    ∃ d', d'.held ≤ d.held + d.st.need ∧ d'.st.rank < 3 * d.st.need + d.st.rank ∧
      (step d buf = .cont d' (buf.drop d.st.need) ∨
        ∃ o, step d buf = .ofOut o d' (buf.drop d.st.need) ∧
          (o.isPanic = true → ∃ x, (parseGreeting x).isPanic = true ∨ (parseCommand x).isPanic = true)) := by
  obtain ⟨st, p⟩ := d
  cases st with
  | greeting =>
    rw [step_greeting p buf (Nat.not_lt.mp h)]
    split
    · exact .inl rfl
    · exact .inr ⟨⟨.header, p⟩, Nat.le_add_right _ _, (by decide : 0 < 3 * 64 + 0),
        .inr ⟨_, rfl, fun ho => ⟨_, .inl (Out.isPanic_bind_ok _ _ ▸ ho)⟩⟩⟩
  | header =>
    cases buf with
    | nil => simp [DState.need] at h
    | cons b t =>
      exact .inr ⟨⟨.len (Flags.ofByte b), p⟩, Nat.le_add_right _ _, (by decide : 1 < 3 * 1 + 0), .inl rfl⟩
  | len f =>
    cases hf : f.long <;> simp only [DState.need, hf, Bool.false_eq_true, ↓reduceIte] at h ⊢
    · cases buf with
      | nil => simp at h
      | cons b t =>
        exact .inr ⟨⟨.body f b.toNat, p⟩, Nat.le_add_right _ _, (by decide : 2 < 3 * 1 + 1),
          .inl (step_len_short hf p b t)⟩
    · exact .inr ⟨⟨.body f (beNat (buf.take 8)), p⟩, Nat.le_add_right _ _, (by decide : 2 < 3 * 8 + 1),
        .inl (step_len_long hf p buf (Nat.not_lt.mp h))⟩
  | body f n =>
    have hn : n ≤ buf.length := Nat.not_lt.mp h
    have hr : DState.rank .header < 3 * n + (DState.body f n).rank := Nat.succ_pos _
    rw [step_body f n p buf hn]
    cases f.command
    · cases f.more
      · exact .inr ⟨⟨.header, []⟩, Nat.zero_le _, hr, .inr ⟨.ok _, rfl, fun ho => nomatch ho⟩⟩
      · exact .inr ⟨⟨.header, p ++ [buf.take n]⟩, by simp [Dec.held, DState.need, hn], hr, .inl rfl⟩
    · exact .inr ⟨⟨.header, p⟩, Nat.le_add_right _ _, hr,
        .inr ⟨_, rfl, fun ho => ⟨_, .inr (Out.isPanic_bind_ok _ _ ▸ ho)⟩⟩⟩

def mu (d : Dec) (buf : Bytes) : Nat := 3 * buf.length + d.st.rank

/-- the transition had the `need` bytes it waited for and took them; a body of length 0 takes nothing, and falls from
rank 2 to 0 -/
theorem step_mu {d : Dec} {buf : Bytes} {d' : Dec} {buf' : Bytes}
    (hs : step d buf = .cont d' buf' ∨ ∃ i, step d buf = .item i d' buf') : mu d' buf' < mu d buf := by
  by_cases h : buf.length < d.st.need
  · rcases step_short h with e | ⟨s, e⟩ <;> simp [e] at hs
  · have hl := List.length_drop (i := d.st.need) (l := buf)
    rcases step_enough h with e | ⟨d'', -, hr, e | ⟨o, e, -⟩⟩
    · simp [e] at hs
    · simp only [e, StepOut.cont.injEq, reduceCtorEq, exists_false, or_false] at hs
      obtain ⟨rfl, rfl⟩ := hs
      simp only [mu]; omega
    · cases o <;> simp [e, StepOut.ofOut] at hs
      obtain ⟨rfl, rfl⟩ := hs
      simp only [mu]; omega

theorem step_cont_mu {d : Dec} {buf : Bytes} {d' : Dec} {buf' : Bytes}
    (hs : step d buf = .cont d' buf') : mu d' buf' < mu d buf := step_mu (.inl hs)

/-- result of one `decode(&mut self, src)` call -/
inductive DecodeOut
  | none (d : Dec) (buf : Bytes)                  -- `Ok(None)`
  | item (i : Item) (d : Dec) (buf : Bytes)       -- `Ok(Some(i))`
  | fail (e : Err) (d : Dec) (buf : Bytes)        -- `Err(e)`
  | panic (s : Site) (d : Dec) (buf : Bytes)      -- aborted in state `d` with `buf` buffered
deriving Repr, DecidableEq

/-- `ZmqCodec::decode` (the loop form): run transitions until an item, an error,
or fewer than `waiting_for` bytes are buffered -/
def decode (d : Dec) (buf : Bytes) : DecodeOut :=
  if buf.length < d.st.need then .none d buf
  else
    match hs : step d buf with
    | .cont d' buf' => decode d' buf'
    | .item i d' buf' => .item i d' buf'
    | .fail e d' buf' => .fail e d' buf'
    | .panic s => .panic s d buf
termination_by mu d buf
decreasing_by exact step_cont_mu hs

/-- `decode.eq_1` keeps the proof `hs` inside the match -/
theorem decode_eq (d : Dec) (buf : Bytes) :
    decode d buf =
      if buf.length < d.st.need then .none d buf
      else match step d buf with
        | .cont d' buf' => decode d' buf'
        | .item i d' buf' => .item i d' buf'
        | .fail e d' buf' => .fail e d' buf'
        | .panic s => .panic s d buf := by
  rw [decode.eq_1]
  split
  · rfl
  · split <;> rename_i h <;> simp [h]

theorem decode_item_mu {d : Dec} {buf : Bytes} {i : Item} {d' : Dec} {buf' : Bytes}
    (h : decode d buf = .item i d' buf') : mu d' buf' < mu d buf := by
  fun_induction decode d buf with
  | case1 d buf hlt => simp at h
  | case2 d buf hge d1 b1 hs ih => have := step_cont_mu hs; have := ih h; omega
  | case3 d buf hge i1 d1 b1 hs => simp at h; obtain ⟨rfl, rfl, rfl⟩ := h; exact step_mu (.inr ⟨_, hs⟩)
  | case4 => simp at h
  | case5 => simp at h

/-- what repeated `decode` calls over one buffer produced -/
structure RunOut where
  items : List Item
  /-- the first error (the stream is abandoned there) -/
  error : Option Err
  panic : Option Site
  dec : Dec
  rest : Bytes
deriving Repr, DecidableEq

/-- call `decode` until it returns `Ok(None)` or fails: what `FramedRead2::poll_next`
yields, poll after poll, from the bytes buffered so far -/
def run (d : Dec) (buf : Bytes) : RunOut :=
  match h : decode d buf with
  | .none d' buf' => { items := [], error := none, panic := none, dec := d', rest := buf' }
  | .fail e d' buf' => { items := [], error := some e, panic := none, dec := d', rest := buf' }
  | .panic s d' buf' => { items := [], error := none, panic := some s, dec := d', rest := buf' }
  | .item i d' buf' => let r := run d' buf'; { r with items := i :: r.items }
termination_by mu d buf
decreasing_by exact decode_item_mu h

theorem run_eq (d : Dec) (buf : Bytes) :
    run d buf =
      match decode d buf with
      | .none d' b' => ⟨[], none, none, d', b'⟩
      | .fail e d' b' => ⟨[], some e, none, d', b'⟩
      | .panic s d' b' => ⟨[], none, some s, d', b'⟩
      | .item i d' b' => { run d' b' with items := i :: (run d' b').items } := by
  rw [run.eq_1]
  split <;> rename_i h <;> simp [h]

/-! ### a connection's read side: decoder + read buffer, fed chunk by chunk

`feed` = "a read returned `chunk`; poll the framed reader until it is `Pending`".
The first error (or panic) ends the stream, as it does for a connection whose
socket drops it on error. -/

structure Conn where
  dec : Dec
  buf : Bytes
  error : Option Err
  panic : Option Site
deriving Repr, DecidableEq

def Conn.init : Conn := ⟨Dec.init, [], none, none⟩

def Conn.dead (c : Conn) : Bool := c.error.isSome || c.panic.isSome

def Conn.feed (c : Conn) (chunk : Bytes) : List Item × Conn :=
  if c.dead then ([], { c with buf := c.buf ++ chunk })
  else
    let r := run c.dec (c.buf ++ chunk)
    (r.items, ⟨r.dec, r.rest, r.error, r.panic⟩)

def Conn.feedAll : Conn → List Bytes → List Item × Conn
  | c, [] => ([], c)
  | c, ch :: chs =>
    let r1 := c.feed ch
    let r2 := Conn.feedAll r1.2 chs
    (r1.1 ++ r2.1, r2.2)

end Zmq
