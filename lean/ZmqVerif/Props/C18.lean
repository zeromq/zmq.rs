import ZmqVerif.Lemmas.NetMaps
/-!
# C18 — bind/unbind manage independent listeners with exact endpoint bookkeeping

`Model.Net`: the bind table of each socket is a list of endpoint ids; a listener runs on an
endpoint iff the endpoint is in the table of a live socket (`ownerOf`).  OS outcomes enter as
the request kind (`fresh` = the OS resolved a wildcard to a new listening address; `again` =
an address seen before, which fails iff somebody is still listening on it).  PARTIAL: the OS,
the tokio scheduler and timing are observed by the `net` correspondence, not modelled.
-/
namespace Zmq.C18
open Zmq Zmq.Net

/-- **bind succeeds**: the returned endpoint is concrete and NEW (its id was never handed out
before), and exactly it is added to the socket's bind set. -/
theorem C18_bind_adds_exactly (s : St) (sid : Nat) (so : NSock) (k : Kind) (hs : lookupN s.socks sid = some so) :
    (Net.bind s sid (.fresh k)).2 = .ok s.eps.length ∧
    (lookupN (Net.bind s sid (.fresh k)).1.socks sid).map (·.binds) = some (so.binds ++ [s.eps.length]) := by
  simp only [Net.bind, hs]
  refine ⟨trivial, ?_⟩
  rw [lookup_emit_same]
  simp only [lookupN_insertN_same, Option.map_some]
  split <;> rfl

/-- … and every OTHER socket's bind set is untouched. -/
theorem C18_bind_others_untouched (s : St) (sid j : Nat) (so : NSock) (r : BindReq) (hj : j ≠ sid)
    (hs : lookupN s.socks sid = some so) :
    (lookupN (Net.bind s sid r).1.socks j).map (fun x => (x.binds, x.alive, x.typ)) =
    (lookupN s.socks j).map (fun x => (x.binds, x.alive, x.typ)) := by
  simp only [Net.bind, hs]
  cases r with
  | badSyntax => rfl
  | fresh k =>
    simp only []
    rw [emit_binds]; simp [lookupN_insertN_other _ _ _ _ hj]
  | again e =>
    simp only []
    split
    · rfl
    · rw [emit_binds]; simp [lookupN_insertN_other _ _ _ _ hj]

/-- **a failed bind changes nothing** (address in use, malformed endpoint). -/
theorem C18_bind_fail_noop (s : St) (sid : Nat) (r : BindReq)
    (h : (Net.bind s sid r).2 = .errNetwork ∨ (Net.bind s sid r).2 = .errSyntax) : (Net.bind s sid r).1 = s := by
  unfold Net.bind at h ⊢
  cases hl : lookupN s.socks sid with
  | none => rfl
  | some so =>
    simp only [hl] at h ⊢
    cases r with
    | badSyntax => rfl
    | fresh k => simp at h
    | again e =>
      simp only [] at h ⊢
      by_cases ho : (ownerOf s e).isSome
      · simp [ho]
      · simp [ho] at h

/-- what `unbind sid e` does to one connection: a handshake still running on that endpoint ends
with its listener (fix D14: the task waits for the listener's stop signal too); everything else —
established connections, connections of other endpoints or sockets — is left as it is -/
def unbindConn (sid e : Nat) (x : Nat × RawC) : Nat × RawC :=
  if x.2.sock == sid && x.2.ep == e && x.2.hs == .running
  then (x.1, { x.2 with hs := .failed, closedByLib := true }) else x

/-- **unbind of a bound endpoint** removes exactly it from the bind set; … -/
theorem C18_unbind (s : St) (sid e : Nat) (so : NSock) (hs : lookupN s.socks sid = some so)
    (he : e ∈ so.binds) :
    (unbind s sid (some e)).2 = .ok ∧
    (lookupN (unbind s sid (some e)).1.socks sid).map (·.binds) = some (so.binds.filter (· != e)) ∧
    (unbind s sid (some e)).1.raws = s.raws.map (unbindConn sid e) := by
  have hc : so.binds.contains e = true := by simpa using he
  simp only [unbind, hs, hc, ↓reduceIte, lookupN_insertN_same, Option.map_some]
  exact ⟨trivial, trivial, rfl⟩

/-- … **established connections keep working**: a registered connection (of any endpoint, this one
included) is exactly as it was. -/
theorem C18_unbind_keeps_established (s : St) (sid e : Nat) (so : NSock)
    (hs : lookupN s.socks sid = some so) (he : e ∈ so.binds) (x : Nat × RawC) (hx : x ∈ s.raws)
    (hreg : x.2.hs = .registered) : x ∈ (unbind s sid (some e)).1.raws := by
  rw [(C18_unbind s sid e so hs he).2.2]
  refine List.mem_map.2 ⟨x, hx, ?_⟩
  simp [unbindConn, hreg]

/-- … and no other socket's listeners are touched. -/
theorem C18_unbind_only_it (s : St) (sid j : Nat) (e : Option Nat) (hj : j ≠ sid) :
    lookupN (unbind s sid e).1.socks j = lookupN s.socks j := by
  unfold unbind
  split
  · rfl
  · split
    · rfl
    · split
      · simp [lookupN_insertN_other _ _ _ _ hj]
      · rfl

/-- **unbind of anything else** fails with no-such-bind and changes nothing. -/
theorem C18_unbind_unknown (s : St) (sid : Nat) (so : NSock) (e : Option Nat) (hs : lookupN s.socks sid = some so)
    (he : ∀ x, e = some x → x ∉ so.binds) :
    unbind s sid e = (s, .noSuchBind) := by
  unfold unbind
  simp only [hs]
  cases e with
  | none => rfl
  | some x =>
    have : x ∉ so.binds := he x rfl
    simp [this]

/-- **listener running ⇔ endpoint in the bind set of a live socket**: a fresh connect is
accepted on exactly those endpoints. -/
theorem C18_running_iff_bound (s : St) (c e : Nat) :
    (rawConnect s c e).2 = true ↔ ∃ x ∈ s.socks, x.2.alive = true ∧ e ∈ x.2.binds := by
  have h : (rawConnect s c e).2 = (ownerOf s e).isSome := by
    unfold rawConnect; split <;> simp [*]
  simp only [h, ownerOf, Option.isSome_map, List.find?_isSome, List.contains_eq_mem, Bool.and_eq_true,
    decide_eq_true_eq, Prod.exists]

example : (Net.bind { socks := [(1, { typ := .pull })] } 1 (.fresh .tcp4)).2 = .ok 0 := rfl
example : (unbind { socks := [(1, { typ := .pull, binds := [0, 1] })] } 1 (some 0)).2 = .ok := rfl

end Zmq.C18
