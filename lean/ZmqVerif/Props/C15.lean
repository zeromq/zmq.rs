import ZmqVerif.Props.C07
import ZmqVerif.Lemmas.WorldProxy
import ZmqVerif.Lemmas.Fold
/-!
# C15 — proxy() forwards every message verbatim in both directions

Abstract model of the `select!` loop of `proxy()` (`src/lib.rs`): the two sockets are FIFO
sources/sinks of messages; an iteration forwards the head of ONE ready side (the choice among
ready sides is `futures::select!`'s pseudo-random pick — a free parameter here: the theorems
hold for EVERY choice sequence), first copying it to the capture socket.  `Model.World.proxyPoll`
is the executable counterpart tied to the real `proxy()`; the chain clause is `C07_chain`.
-/
namespace Zmq.C15
open Zmq

structure St where
  frontIn : List Msg := []     -- received by the frontend socket, not yet taken by the proxy
  backIn : List Msg := []
  toBack : List Msg := []      -- sent on the backend so far
  toFront : List Msg := []
  cap : List Msg := []         -- sent to the capture socket so far
  allFront : List Msg := []    -- ghost: everything that ever arrived on the frontend, in order
  allBack : List Msg := []

inductive Op
  | arriveFront (m : Msg)
  | arriveBack (m : Msg)
  | pickFront            -- one loop iteration whose `select!` took the frontend branch
  | pickBack

def step (s : St) : Op → St
  | .arriveFront m => { s with frontIn := s.frontIn ++ [m], allFront := s.allFront ++ [m] }
  | .arriveBack m => { s with backIn := s.backIn ++ [m], allBack := s.allBack ++ [m] }
  | .pickFront =>
    match s.frontIn with
    | m :: r => { s with frontIn := r, cap := s.cap ++ [m], toBack := s.toBack ++ [m] }
    | [] => s                       -- that branch was not ready: nothing happens
  | .pickBack =>
    match s.backIn with
    | m :: r => { s with backIn := r, cap := s.cap ++ [m], toFront := s.toFront ++ [m] }
    | [] => s

def Inv (s : St) : Prop :=
  s.toBack ++ s.frontIn = s.allFront ∧ s.toFront ++ s.backIn = s.allBack ∧
  s.cap.length = s.toBack.length + s.toFront.length

theorem step_inv (s : St) (op : Op) (h : Inv s) : Inv (step s op) := by
  obtain ⟨h1, h2, h3⟩ := h
  cases op with
  | arriveFront m => exact ⟨by simp [step, ← h1], h2, h3⟩
  | arriveBack m => exact ⟨h1, by simp [step, ← h2], h3⟩
  | pickFront =>
    simp only [step]
    split
    · rename_i m r hm
      refine ⟨by simp [← h1, hm], h2, by simp [h3]; omega⟩
    · exact ⟨h1, h2, h3⟩
  | pickBack =>
    simp only [step]
    split
    · rename_i m r hm
      refine ⟨h1, by simp [← h2, hm], by simp [h3]; omega⟩
    · exact ⟨h1, h2, h3⟩

/-- **Verbatim, once, in order, per direction** — for every interleaving of arrivals and every
sequence of `select!` choices: what has been sent on the backend followed by what the frontend
still holds is exactly what arrived on the frontend, in order (and symmetrically); the capture
socket has received one copy per forwarded message. -/
theorem C15_verbatim_order (ops : List Op) :
    let s := ops.foldl step {}
    s.toBack ++ s.frontIn = s.allFront ∧ s.toFront ++ s.backIn = s.allBack ∧
    s.cap.length = s.toBack.length + s.toFront.length :=
  List.foldl_inv (P := Inv) step_inv ops ⟨rfl, rfl, rfl⟩

/-- so everything sent is a prefix of what was received: nothing invented, reordered, doubled -/
theorem C15_prefix (ops : List Op) :
    (ops.foldl step {}).toBack <+: (ops.foldl step {}).allFront ∧
    (ops.foldl step {}).toFront <+: (ops.foldl step {}).allBack := by
  obtain ⟨h1, h2, _⟩ := C15_verbatim_order ops
  exact ⟨⟨_, h1⟩, ⟨_, h2⟩⟩

/-- **Both sides ready in the same poll**: taking one side leaves the other side's message
queued — the losing branch loses nothing (this is C14 applied to the dropped recv future). -/
theorem C15_both_ready (s : St) :
    (step s .pickFront).backIn = s.backIn ∧ (step s .pickBack).frontIn = s.frontIn := by
  constructor
  · simp only [step]; split <;> rfl
  · simp only [step]; split <;> rfl

/-- **Capture** receives exactly the forwarded messages in processing order: each iteration
appends the message it forwards. -/
theorem C15_capture (s : St) (m : Msg) (r : List Msg) (h : s.frontIn = m :: r) :
    (step s .pickFront).cap = s.cap ++ [m] ∧ (step s .pickFront).toBack = s.toBack ++ [m] := by
  simp [step, h]

/-- **Chain** REQ – ROUTER/DEALER – REP: the proxy forwards the frames unchanged (above), the
ROUTER side adds/removes the client's identity, REQ and REP add/strip the delimiter — so each
client gets the replies to its own requests: this is `C07_chain` with one hop. -/
theorem C15_chain (ident : Bytes) (p r : Msg) (hi : ident ≠ []) (hp : p ≠ []) (hr : r ≠ []) :
    ∃ env, repSplit (routerIn ident (reqWrap p)) = some (env, p) ∧
      routerOut (repReply env r) = some (ident, reqWrap r) ∧ reqUnwrap (reqWrap r) = some r := by
  obtain ⟨env, h1, h2, h3⟩ := C07.C07_chain [ident] p r (by simpa using hi) hp hr
  refine ⟨env, by simpa [C07.hopsIn] using h1, ?_, h3⟩
  simp only [List.reverse_cons, List.reverse_nil, List.nil_append, C07.hopsOut] at h2
  split at h2
  · rename_i t rest hro
    split at h2
    · rename_i ht; simp at h2; rw [hro, ht, h2]
    · simp at h2
  · simp at h2

/-- non-vacuity: both sides ready, backend branch taken first -/
example : ((([Op.arriveFront [[1]], .arriveBack [[2]], .pickBack, .pickFront].foldl step {}).toBack,
            ([Op.arriveFront [[1]], .arriveBack [[2]], .pickBack, .pickFront].foldl step {}).toFront)
    = ([[[1]]], [[[2]]])) := by decide

section World
open Zmq.W

/-! `proxyPollT` (Lemmas/WorldProxy) is `proxyPoll` with a ghost trace: `took ff m` where `recv` on the frontend / backend
returned `m`, `start sid m` where a `send` of `m` on socket `sid` is started, `finished` where the send in progress
completes. -/

/-- the traced function IS one poll of the proxy future (`pollAny`), with the trace forgotten -/
theorem C15_world_trace_erases (w : World) (a b : Nat) (c : Option Nat) (ph : Nat) (ff : Bool) (m : Msg) (sub : FutSt) :
    (proxyPollT 64 w a b c ph ff m sub).1 = pollAny w (.proxy a b c ph ff m sub) :=
  proxyPollT_erase 64 w a b c ph ff m sub

/-- **One poll, any world, any state of the future**: what the poll does is a word of the forwarding grammar
(`accepts`): a message is taken only when nothing is in hand; what is started next is a send of THAT message — on the
capture socket first if there is one — then a send of that message on the OTHER side; the next message is taken only
after that send has completed.  The future returned carries the grammar's state. -/
theorem C15_world_poll_grammar (w : World) (a b : Nat) (c : Option Nat) (ph : Nat) (ff : Bool) (m : Msg) (sub : FutSt) :
    ∃ s', accepts a b c (pstOf ph ff m) (proxyPollT 64 w a b c ph ff m sub).2 = some s' ∧
      Leaves a b c (proxyPollT 64 w a b c ph ff m sub).1.2.1 s' :=
  proxyPollT_accepts 64 w a b c ph ff m sub

/-- **Every history of polls of a proxy started idle** — each poll in an arbitrary world (whatever arrived, connected,
failed or was called in between): for everything `recv` returned on one side a send has been STARTED (`fwdOf` reads the
`start` events; whether that send completes is the send theorems' subject) — verbatim, once and in the order taken — on
the OTHER side, except for at most the one message whose copy is still being written to the capture socket; and a send
of a copy of every message taken has been started on the capture socket, in that order. -/
theorem C15_world_verbatim (a b : Nat) (c : Option Nat) (ff : Bool) (m : Msg) (sub f' : FutSt) (tr : List PEv)
    (h : ProxyRun a b c (.proxy a b c 0 ff m sub) tr f') :
    ∃ s', accepts a b c .idle tr = some s' ∧
      (tookOf tr).map (dest a b) = fwdOf c .idle tr ++ s'.hand.map (dest a b) ∧ s'.hand.length ≤ 1 ∧
      capOf c .idle tr = (match (generalizing := false) c with
                          | some k => (tookOf tr).map (fun x => (k, x.2))
                          | none => []) := by
  obtain ⟨s', h1, _⟩ := h.accepts .idle (Leaves.proxy a b c 0 ff m sub) ⟨_, _, _, _, rfl⟩
  refine ⟨s', h1, ?_, ?_, accepts_capture a b c .idle tr s' h1⟩
  · simpa [PSt.hand] using accepts_conservation a b c .idle tr s' h1
  · cases s' <;> simp [PSt.hand]

/-- without a capture socket nothing taken is ever left unforwarded: the sends started are exactly the messages taken,
each towards the other side, in the order taken -/
theorem C15_world_no_capture_all_forwarded (a b : Nat) (ff : Bool) (m : Msg) (sub f' : FutSt) (tr : List PEv)
    (h : ProxyRun a b none (.proxy a b none 0 ff m sub) tr f') :
    fwdOf none .idle tr = (tookOf tr).map (dest a b) := by
  obtain ⟨s', h1, h2, _, _⟩ := C15_world_verbatim a b none ff m sub f' tr h
  rw [h2, accepts_none_hand a b _ _ _ h1 rfl]; simp

/-- non-vacuity of the grammar: with a capture socket (3) a request taken from the frontend (1) is copied, then
forwarded to the backend (2); the reply taken from the backend is copied and is being forwarded when the trace ends -/
example :
    accepts 1 2 (some 3) .idle
      [.took true [[7]], .start 3 [[7]], .finished, .start 2 [[7]], .finished,
       .took false [[8]], .start 3 [[8]], .finished, .start 1 [[8]]] = some (.fwd false [[8]]) ∧
    fwdOf (some 3) .idle
      [.took true [[7]], .start 3 [[7]], .finished, .start 2 [[7]], .finished,
       .took false [[8]], .start 3 [[8]], .finished, .start 1 [[8]]] = [(2, [[7]]), (1, [[8]])] := by
  decide

example : accepts 1 2 none .idle [.took true [[7]], .start 2 [[9]]] = none := by decide

end World

end Zmq.C15
