import ZmqVerif.Lemmas.WorldMaps
import ZmqVerif.Lemmas.WorldSendStart
import ZmqVerif.Lemmas.WorldReqRecv
/-!
# C08 — REQ/REP lock-step: one outstanding request, the reply goes to its requester

Stated on the functions `Model.World` runs for `ReqSocket::send/recv` and `RepSocket::send`
(first poll of the call, where every decision is taken).  "State unchanged, nothing on the
wire" is literal: the whole world (all sockets, all pipes and their wire taps) is returned
unchanged.
-/
namespace Zmq.C08
open Zmq Zmq.W

/-- REQ: a `send` while a request is outstanding fails, hands the message back intact, puts
nothing on any wire and leaves the state unchanged. -/
theorem C08_req_out_of_turn_send (w : World) (sid : Nat) (s : Socket) (m : Msg) (fuel : Nat)
    (hs : getSock w sid = some s) (k : Ident) (hc : s.current = some k) :
    reqSendStart (fuel + 1) w sid m = (w, .done, .ready (.errReturn m)) := by
  simp [reqSendStart, hs, hc]

/-- REQ: a `recv` with no request outstanding fails and changes nothing. -/
theorem C08_req_out_of_turn_recv (w : World) (sid : Nat) (s : Socket)
    (hs : getSock w sid = some s) (hc : s.current = none) :
    reqRecvPoll w sid = (w, .ready (.err .other)) := by
  simp [reqRecvPoll, hs, hc]

/-- REQ with no connected peer: the send fails, the message comes back intact, nothing changes. -/
theorem C08_req_no_peer (w : World) (sid : Nat) (s : Socket) (m : Msg) (fuel : Nat)
    (hs : getSock w sid = some s) (hc : s.current = none) (hr : s.rr = []) :
    reqSendStart (fuel + 1) w sid m = (w, .done, .ready (.errReturn m)) := by
  simp [reqSendStart, hs, hc, hr]

/-- the reference alternation automaton -/
inductive Phase | idle | awaiting
deriving DecidableEq, Repr

def phase (w : World) (sid : Nat) : Phase :=
  match getSock w sid with
  | some s => if s.current.isSome then .awaiting else .idle
  | none => .idle

/-- A `recv` is accepted (returns a message) only in phase `awaiting`, and moves to `idle`;
while it is pending the socket stays in `awaiting` (the request is still owed its recv). -/
theorem C08_req_recv_alternates (w : World) (sid : Nat) (s : Socket) (hs : getSock w sid = some s) :
    (∀ w' m, reqRecvPoll w sid = (w', .ready (.okMsg m)) → phase w sid = .awaiting ∧ phase w' sid = .idle) ∧
    (∀ w', reqRecvPoll w sid = (w', .pending) → phase w sid = .awaiting ∧ phase w' sid = .awaiting) := by
  refine ⟨fun w' m h => ?_, fun w' h => ?_⟩
  · obtain ⟨s', hs', -, hm, hn⟩ := reqRecvPoll_current w sid s hs w' _ h
    simp [phase, hs, hs', hm m rfl, hn nofun]
  · obtain ⟨s', hs', hp, -, -⟩ := reqRecvPoll_current w sid s hs w' _ h
    obtain ⟨h1, h2⟩ := hp rfl
    simp [phase, hs, hs', h1, h2]

/-- REP: a reply with no request received fails, hands the message back, changes nothing. -/
theorem C08_rep_needs_request (w : World) (sid : Nat) (s : Socket) (m : Msg)
    (hs : getSock w sid = some s) (hc : s.current = none) :
    repSendStart w sid m = (w, .done, .ready (.errReturn m)) := by
  simp [repSendStart, hs, hc]

/-- REP: the reply is written to exactly the connection the request came from — every other
pipe of the world (every other client's wire) is left untouched (`j` is any pipe that is neither
the requester's write half nor the read half the socket holds for the same identity, which is
dropped when the write fails and the peer is forgotten). -/
theorem C08_rep_routes (w : World) (sid : Nat) (s : Socket) (m : Msg) (k : Ident) (wr : Wr)
    (hs : getSock w sid = some s) (hc : s.current = some k) (hp : ilookup s.peers k = some wr)
    (j : Nat) (hj : j ≠ wr.pipe)
    (hjr : ∀ rd, ilookup s.fqStreams k = some rd → j ≠ rd.pipe)
    (hjq : ∀ rd, ilookup s.reqRd k = some rd → j ≠ rd.pipe) :
    getPipe (repSendStart w sid m).1.pipes j = getPipe w.pipes j := by
  simp only [repSendStart, hs, hc, hp, Option.isSome_some, ↓reduceIte]
  exact sendToPoll_frame (setSock w sid _) sid k _ false { s with current := none, envelope := none } wr
    (getSock_setSock_same _ _ _) hp j hj hjr hjq

/-- **REQ `recv` against the awaited peer's byte stream**: REQ reads only the connection its outstanding request
went to; a poll is `Pending` only if that connection's stream holds no complete item (the reader is where it was and
the request marker stays — the recv is still owed), otherwise it consumes EXACTLY the first item of that stream: a
message is returned with its delimiter removed or rejected with one error; end of stream and stream errors are
reported with nothing complete left; no other pipe's waiting bytes are touched — so every client gets the replies
to its own requests, in the order its server wrote them, and nobody else's. -/
theorem C08_world_req_recv (w : World) (sid : Nat) (s : Socket) (hs : getSock w sid = some s)
    (k : Ident) (hc : s.current = some k) (rd : Rd) (hk : ilookup s.reqRd k = some rd)
    (w' : World) (o : POut) (h : reqRecvPoll w sid = (w', o)) :
    (∀ j, j ≠ rd.pipe → inbufOf w'.pipes j = inbufOf w.pipes j) ∧
    (match o with
     | .pending => rd.items w.pipes = [] ∧
         ∃ s' rd', getSock w' sid = some s' ∧ s'.current = some k ∧ ilookup s'.reqRd k = some rd' ∧
           rd'.rem w'.pipes = rd.rem w.pipes
     | .ready (.okMsg r) => ∃ m rest, rd.items w.pipes = .message m :: rest ∧ reqUnwrap m = some r
     | .ready (.err _) =>
         rd.items w.pipes = [] ∨ (∃ i rest, rd.items w.pipes = i :: rest ∧
           (∀ m, i = .message m → reqUnwrap m = none))
     | _ => False) :=
  reqRecvPoll_spec w sid s hs k hc rd hk w' o h

/-- **`RepSocket::send` against the wires**: without a request there is nothing to answer (message handed back, no wire
touched); otherwise the send is in progress to EXACTLY the connection the request came from (`s.current`), with the
encoding of `stored envelope ++ reply` — and to no other connection. -/
theorem C08_world_rep_send (w : World) (sid : Nat) (m : Msg) (s : Socket) (hs : getSock w sid = some s)
    (w' : World) (f' : FutSt) (o : POut) (h : repSendStart w sid m = (w', f', o)) :
    match (generalizing := false) f', o with
    | .sendTo _ k st _, .pending =>
        s.current = some k ∧ ∃ wr, ilookup s.peers k = some wr ∧
          SendInv w' sid k wr.pipe (outOf w.pipes wr) (encodeMsg (repReply (s.envelope.getD []) m)) st ∧
          ∀ j, j ≠ wr.pipe → wOf w'.pipes j = wOf w.pipes j
    | _, .ready .okUnit =>
        ∃ k wr, s.current = some k ∧ ilookup s.peers k = some wr ∧
          (wOf w'.pipes wr.pipe).wire = outOf w.pipes wr ++ encodeMsg (repReply (s.envelope.getD []) m) ∧
          ∀ j, j ≠ wr.pipe → wOf w'.pipes j = wOf w.pipes j
    | _, .ready (.errReturn m') => m' = m ∧ ∀ j, wOf w'.pipes j = wOf w.pipes j
    | _, .ready (.err _) => True
    | _, _ => False :=
  repSendStart_spec w sid m s hs w' f' o h

end Zmq.C08
