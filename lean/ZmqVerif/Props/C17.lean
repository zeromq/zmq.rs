import ZmqVerif.Lemmas.Own
import ZmqVerif.Lemmas.WorldMaps
/-!
# C17 — closing or dropping a socket stops its listeners and disconnects all peers

Two layers.  (1) The ownership graph (`Model.Lifecycle`): whether dropping the socket can free
a connection at all is a reference-counting question — `dropped_closes` proves it for the
repaired fair queue (which releases its streams when dropped), `cycle_leaks` proves the
**negation** for the queue as it was (an armed `StreamWaker` closes a strong cycle through the
transport: the connection stays open for ever — reproduced on the real code, then repaired),
`pending_handshake_survives` is the negation for the accept loop as it was (a connection whose
handshake was still running in its detached task outlived `close()` — finding D14, reproduced on
the real runtime, then repaired: handshake tasks now also wait for their listener's stop signal),
and `C17_all_closed` is the statement at full strength for the tree with both repairs (the positive
statements are all instances of one walk over the graph, `transport_freed`).  (2) `Model.World.dropSocket`: what
`Drop`/`close()` do to the tables, tied to the real sockets half by half.
PARTIAL: OS sockets, the tokio scheduler and timing ("shortly afterwards") are observed on an
enumerated grid by the `net` engine, not modelled.
-/
namespace Zmq.C17
open Zmq Zmq.W Zmq.Own

/-- **Peers see end-of-stream (repaired queue)**: once the socket is dropped or closed and no
handshake is pending, every registered connection is closed, whatever recv had been pending. -/
theorem C17_peers_eof (g : Cfg) (hdrop : g.sockHeld = false) (hfix : g.fqDropsStreams = true)
    (hnohs : ∀ c, g.handshaking c = false) (c : Nat) : Freed g (.transport c) :=
  dropped_closes g hdrop hfix hnohs c

/-- **The defect that was there** (negation, for the record and to show the theorem above is not
vacuous): without the repair, a connection on which a recv was ever pending is never closed. -/
theorem C17_cycle_leaked (g : Cfg) (c : Nat) (hreg : g.registered c = true) (harm : g.armed c = true)
    (hfix : g.fqDropsStreams = false) : ¬ Freed g (.transport c) :=
  (cycle_leaks g c hreg harm hfix).2.1

/-- **Every connection is closed** (both repairs): once the socket is dropped or closed, every
connection — registered or still in its handshake, whatever recv had been pending — is closed. -/
theorem C17_all_closed (g : Cfg) (hdrop : g.sockHeld = false) (hfix : g.fqDropsStreams = true)
    (hfix14 : g.hsStops = true) (c : Nat) : Freed g (.transport c) :=
  transport_freed g hdrop (fun _ _ => hfix14) c fun _ => hfix

/-- **The second defect that was there** (negation): with handshakes running as detached tasks, a
connection still in its handshake was not closed by `close()`/`drop`. -/
theorem C17_pending_handshake_leaked (g : Cfg) (c : Nat) (hhs : g.handshaking c = true)
    (hfix14 : g.hsStops = false) : ¬ Freed g (.rhalf c) :=
  pending_handshake_survives g c hhs hfix14

/-- **Partial**: … but the accept tasks are always released — their only owner is the
stop-channel sender in the socket's bind table, which goes with the socket. -/
theorem C17_listeners_released (g : Cfg) (hdrop : g.sockHeld = false) (e : Nat) :
    Freed g (.acceptTask e) :=
  freed_acceptTask g hdrop e

/-- `Drop`/`close()` in the World model: the peer table and both tables of read halves are emptied and the
socket is marked dead. -/
theorem C17_drop_releases_writes (w : World) (sid : Nat) (s : Socket) (hs : getSock w sid = some s) :
    ∃ s', getSock (dropSocket w sid) sid = some s' ∧ s'.peers = [] ∧ s'.fqStreams = [] ∧
      s'.reqRd = [] ∧ s'.dead = true := by
  simp only [dropSocket, hs]
  exact ⟨_, getSock_setSock_same _ _ _, rfl, rfl, rfl, rfl⟩

/-- non-vacuity: a configuration with a registered, armed connection and a dropped socket -/
example : ∃ g : Cfg, g.sockHeld = false ∧ g.registered 0 = true ∧ g.armed 0 = true ∧ g.fqDropsStreams = true ∧
    g.handshaking 1 = true ∧ g.hsStops = true :=
  ⟨⟨false, fun c => c == 0, fun _ => true, fun c => c == 1, fun _ => false, true, fun _ => 0, true⟩,
   rfl, rfl, rfl, rfl, rfl, rfl⟩

end Zmq.C17
