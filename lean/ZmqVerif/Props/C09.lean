import ZmqVerif.Lemmas.WorldMaps
import ZmqVerif.Lemmas.WorldHist
import ZmqVerif.Lemmas.WorldSendStart
/-!
# C09 — ROUTER labels inbound messages with the true sender and routes by first frame

On the functions `Model.World` runs for `RouterSocket::send` (`routerSendStart`) and for the
ROUTER arm of `recv` (`routerIn` applied to the fair-queue key, which `register` set to the
identity admitted by the handshake).  Hypothesis kept explicit: identities of simultaneously
registered peers are distinct (two peers announcing the same identity replace each other —
outside the statement).
-/
namespace Zmq.C09
open Zmq Zmq.W

/-- Unknown target (no connected peer has that identity — including the identity of a peer that
has gone): the send fails and the WHOLE world (every wire) is unchanged. -/
theorem C09_unknown (w : World) (sid : Nat) (s : Socket) (t : Bytes) (m : Msg)
    (hs : getSock w sid = some s) (hm : m ≠ []) (hp : ilookup s.peers t = none) :
    routerSendStart w sid (t :: m) = (w, .done, .ready (.err .other)) ∨
    routerSendStart w sid (t :: m) = (w, .done, .ready (.err .peerIdentity)) :=
  routerSendStart_unknown w sid s t m hs hm hp

/-- Known target: the message, minus its first frame, goes to exactly the peer whose identity
equals that frame — no pipe of the world other than that peer's connection (its write half
`wr.pipe`; and, when the write fails and the peer is forgotten, the read half the socket holds
for the same identity) is touched. -/
theorem C09_route_only (w : World) (sid : Nat) (s : Socket) (t : Bytes) (m : Msg) (wr : Wr)
    (hs : getSock w sid = some s) (hm : m ≠ []) (ht : t ≠ []) (hlen : t.length ≤ 255)
    (hp : ilookup s.peers t = some wr) (j : Nat) (hj : j ≠ wr.pipe)
    (hjr : ∀ rd, ilookup s.fqStreams t = some rd → j ≠ rd.pipe)
    (hjq : ∀ rd, ilookup s.reqRd t = some rd → j ≠ rd.pipe) :
    getPipe (routerSendStart w sid (t :: m)).1.pipes j = getPipe w.pipes j := by
  rw [routerSendStart_known w sid s t m wr hs hm ht hlen hp]
  exact sendToPoll_frame w sid t _ false s wr hs hp j hj hjr hjq

/-- … and what is written there is exactly the encoding of the remaining frames (here: on a
connection that accepts every write and has nothing buffered — the general case is C10/C12's
sink law). -/
theorem C09_route_bytes (w : World) (sid : Nat) (s : Socket) (t : Bytes) (m : Msg) (wr : Wr)
    (hs : getSock w sid = some s) (hm : m ≠ []) (ht : t ≠ []) (hlen : t.length ≤ 255)
    (hp : ilookup s.peers t = some wr) (hbuf : wr.buf = [])
    (hcr : (getPipe w.pipes wr.pipe).w.credit = none) (herr : (getPipe w.pipes wr.pipe).w.wrerr = false) :
    (getPipe (routerSendStart w sid (t :: m)).1.pipes wr.pipe).w.wire
      = (getPipe w.pipes wr.pipe).w.wire ++ encodeMsg m ∧
    (routerSendStart w sid (t :: m)).2.2 = .ready .okUnit := by
  obtain ⟨ps', wr', he, -, -, -, hw, -⟩ := wrSendPoll_free w.pipes wr (encodeMsg m) hbuf ⟨hcr, herr⟩
  rw [routerSendStart_known w sid s t m wr hs hm ht hlen hp]
  simp only [sendToPoll, hs, hp, he]
  exact ⟨hw, trivial⟩

/-- Label: the message ROUTER hands to the application is the received frames prefixed with
the key under which the stream that produced it is registered — nothing else is modified. -/
theorem C09_label (k : Ident) (m : Msg) : routerIn k m = k :: m ∧ (routerIn k m).tail = m := ⟨rfl, rfl⟩

/-- non-vacuity: a message of fewer than two frames is not routable (an error since fix D19; the code asserted before) -/
example (w : World) : (routerSendStart w 1 [[1]]).2.2 = .ready (.err .other) := rfl

/-- **`RouterSocket::send` against the wires**: a message of two or more frames goes — minus its first frame — to
EXACTLY the connected peer whose identity equals that frame; if no such peer is connected (or the frame cannot be an
identity) the send fails and NOTHING is written to any connection. -/
theorem C09_world_router_send (w : World) (sid : Nat) (t : Bytes) (rest : Msg) (hne : rest ≠ []) (s : Socket)
    (hs : getSock w sid = some s) (w' : World) (f' : FutSt) (o : POut)
    (h : routerSendStart w sid (t :: rest) = (w', f', o)) :
    match (generalizing := false) f', o with
    | .sendTo _ k st _, .pending =>
        k = t ∧ ∃ wr, ilookup s.peers t = some wr ∧
          SendInv w' sid t wr.pipe (outOf w.pipes wr) (encodeMsg rest) st ∧
          ∀ j, j ≠ wr.pipe → wOf w'.pipes j = wOf w.pipes j
    | _, .ready .okUnit =>
        ∃ wr, ilookup s.peers t = some wr ∧
          (wOf w'.pipes wr.pipe).wire = outOf w.pipes wr ++ encodeMsg rest ∧
          ∀ j, j ≠ wr.pipe → wOf w'.pipes j = wOf w.pipes j
    | _, .ready (.err _) => (ilookup s.peers t = none ∨ t = [] ∨ t.length > 255) → ∀ j, wOf w'.pipes j = wOf w.pipes j
    | _, _ => False :=
  routerSendStart_spec w sid t rest hne s hs w' f' o h

/-- **Every message a ROUTER hands to the application, over every history** of `recv` polls and arriving bytes: it is
labelled with the identity of the connection it was READ FROM — `log` pairs each consumed message `w` with the key `k` of
the connection whose byte stream it came out of (`C05_world_exactly_once`: those are exactly the messages of `k`'s
stream, in order) and with what `recv` returned: `k` as the first frame, then `w` unchanged; never an error. -/
theorem C09_world_label {ps0 : Pipes} {m0 : Streams} {ps : Pipes} {m : Streams}
    {taken : Ident → List Item} {rev : Nat → Bytes} {log : List (Ident × Msg × POut)}
    (h : RecvRun .router ps0 m0 ps m taken rev log) :
    ∀ e ∈ log, e.2.2 = .ready (.okMsg (e.1 :: e.2.1)) :=
  h.log_ok (f := fun k w => k :: w) fun _ _ => rfl

end Zmq.C09
