import ZmqVerif.Lemmas.WorldMaps
import ZmqVerif.Lemmas.Compat
import ZmqVerif.Lemmas.WorldHandshake
import ZmqVerif.Lemmas.WorldAdmit
import ZmqVerif.Lemmas.WorldHandshakeIf
/-!
# C04 — the handshake admits exactly the well-formed, RFC-compatible peers

Table clauses are decided over tables REGENERATED from the real code on every run
(`Gen.Tables`); `admitPeer` is the decision `ready_exchange` takes on the peer's READY
(`Model.World`), `parseGreeting` + the version test of `attachPoll` the decision on the
greeting.
-/
namespace Zmq.C04
open Zmq Zmq.W

/-- The compatibility function is defined without failure for every pair of socket types … -/
theorem C04_compat_total : ∀ a ∈ SockType.all, ∀ b ∈ SockType.all, compatible a b ≠ none :=
  fun a _ b _ => compatible_total a b

/-- … equal to the RFC relation … -/
theorem C04_compat_rfc :
    ∀ a ∈ SockType.all, ∀ b ∈ SockType.all, compatible a b = some (Rfc.compatRfc a b) := fun a _ b _ => by
  -- every row carries the RFC's answer for the pair of types its two indices stand for
  have := List.all_eq_true.1 (by decide +kernel : Gen.compat.all (fun e =>
    e.2.2 == (SockType.ofNat? e.1).bind fun a => (SockType.ofNat? e.2.1).map (Rfc.compatRfc a)) = true) _ (compatible_row a b)
  simpa [SockType.ofNat?_toNat] using this

/-- … and so symmetric, as the RFC relation is. -/
theorem C04_compat_symm : ∀ a ∈ SockType.all, ∀ b ∈ SockType.all, compatible a b = compatible b a :=
  fun a ha b hb => by rw [C04_compat_rfc a ha b hb, C04_compat_rfc b hb a ha, Rfc.compatRfc_symm a b]

/-- The twelve socket-type names are the RFC names and parse back to their type; near-misses
(lower case, padding, prefixes, RFC types the library does not know) are rejected — as observed on
the real `as_str` / `try_from`. -/
theorem C04_names :
    (∀ t ∈ SockType.all, (t.toNat, t.name) ∈ Gen.typeName) ∧
    (∀ e ∈ Gen.typeParse, e.2 = (SockType.parse e.1).map SockType.toNat) := by decide

/-- Mechanisms: exactly NULL, PLAIN, CURVE (NUL-padded; what follows the first NUL is ignored),
as observed on the real `ZmqMechanism::try_from`. -/
theorem C04_mechanisms :
    ∀ e ∈ Gen.mechParse, e.2 = (match parseMechanism e.1 with
      | .ok .null => some 0 | .ok .plain => some 1 | .ok .curve => some 2 | _ => none) := by decide

/-- the regenerated identity bound is the one the model uses -/
theorem C04_identity_max : Gen.identityMax = 255 := by decide

/-- what the property demands of a READY command, independently of the code's control flow -/
def Admissible (localT : SockType) (props : Props) : Prop :=
  ∃ tn other, propLookup props kSocketType = some tn ∧ SockType.parse tn = some other ∧
    Rfc.compatRfc localT other = true ∧
    (∀ i, propLookup props kIdentity = some i → i.length ≤ 255)

/-- **Admit iff**: a READY is accepted iff it carries a known Socket-Type that is compatible
with the local type under the RFC table and its Identity, if present, is at most 255 bytes. -/
theorem C04_admit_iff (localT : SockType) (props : Props) (fresh : Nat) :
    (∃ r, admitPeer localT props fresh = .ok r) ↔ Admissible localT props := by
  have hc := fun o => C04_compat_rfc localT localT.mem_all o o.mem_all
  unfold admitPeer Admissible
  cases propLookup props kSocketType with
  | none => simp
  | some tn =>
    cases hp : SockType.parse tn with
    | none => simp [hp]
    | some other =>
      simp only [hc, Option.some.injEq, exists_and_left, exists_eq_left', hp]
      cases Rfc.compatRfc localT other with
      | false =>
        refine ⟨fun ⟨r, h⟩ => ?_, fun h => by cases h.1⟩
        split at h <;> cases h
      | true =>
        cases hi : propLookup props kIdentity with
        | none => simp
        | some i =>
          by_cases he : i = []
          · simp [he]
          · by_cases hl : i.length > 255
            · simp [he, hl, Nat.not_le.2 hl]
            · simp [he, hl, Nat.not_lt.1 hl]

/-- **Identity**: an admitted peer is registered under the identity it announced, or else — no
Identity property, or an empty one — under a fresh one (`autoId fresh`, and `fresh` advances so
that the next one differs). -/
theorem C04_identity (localT : SockType) (props : Props) (fresh : Nat) (id : Ident) (fresh' : Nat)
    (h : admitPeer localT props fresh = .ok (id, fresh')) :
    (∃ i, propLookup props kIdentity = some i ∧ i ≠ [] ∧ id = i ∧ fresh' = fresh) ∨
    ((propLookup props kIdentity = none ∨ propLookup props kIdentity = some []) ∧
      id = autoId fresh ∧ fresh' = fresh + 1) := by
  unfold admitPeer at h
  split at h
  · cases h
  split at h
  · cases h
  extract_lets ident at h
  -- an `.ok` result is what the Identity rule gave: the peer's type can only turn it into an error
  have hid : ident = .ok (id, fresh') := by
    generalize ident = x at h ⊢
    split at h
    · cases h
    · split at h <;> cases h
      rfl
  cases hi : propLookup props kIdentity with
  | none =>
    simp only [ident, hi, Except.ok.injEq, Prod.mk.injEq] at hid
    exact .inr ⟨.inl rfl, hid.1.symm, hid.2.symm⟩
  | some i =>
    cases i with
    | nil =>
      simp only [ident, hi, List.isEmpty_nil, if_true, Except.ok.injEq, Prod.mk.injEq] at hid
      exact .inr ⟨.inr rfl, hid.1.symm, hid.2.symm⟩
    | cons a t =>
      simp only [ident, hi, List.isEmpty_cons, Bool.false_eq_true, if_false] at hid
      split at hid
      · cases hid
      · cases hid
        exact .inl ⟨_, rfl, List.cons_ne_nil _ _, rfl, rfl⟩

/-- fresh identities are pairwise different (up to 256 auto-assigned peers per world in the
model; the real code draws UUIDv4s, whose uniqueness is trusted) -/
theorem C04_fresh_distinct (a b : Nat) (ha : a < 256) (hb : b < 256) (h : autoId a = autoId b) : a = b := by
  simp only [autoId, List.append_cancel_left_eq, List.cons.injEq, and_true] at h
  have := congrArg UInt8.toNat h
  simp [UInt8.toNat_ofNat'] at this
  omega

/-- **Registered exactly once**: registering a new identity puts exactly one entry for it into
the peer table (an existing entry with that identity is replaced, not duplicated). -/
theorem C04_register_once {α} (m : List (Ident × α)) (k : Ident) (v : α) :
    ((iinsert m k v).filter (·.1 == k)).length = max 1 ((m.filter (·.1 == k)).length) := by
  induction m with
  | nil => simp [iinsert]
  | cons e t ih =>
    simp only [iinsert]
    by_cases he : e.1 == k
    · simp [he]
    · simp [he, ih]

/-- **A rejected connection** changes no socket and its write half is released: it can never carry an application
message from this side. -/
theorem C04_reject_no_effect (w : World) (sid pid : Nat) (s : Socket) (rd : Rd) (wr : Wr)
    (props : Props) (e : Err) (hs : getSock w sid = some s)
    (hread : readerPoll (readFuel w.pipes rd) w.pipes rd .user = (.item (.command props), w.pipes, rd))
    (hrej : admitPeer s.typ props w.fresh = .error e) (fuel : Nat) :
    let r := attachPoll (fuel + 1) w sid pid .readReady rd wr
    r.1.socks = w.socks ∧ r.2.2 = .ready (.err e) ∧
    (getPipe r.1.pipes wr.pipe).wDropped = true := by
  simp only [attachPoll, hs, hread, hrej]
  refine ⟨trivial, trivial, ?_⟩
  simp [dropW, getPipe_setPipe_same]

/-- non-vacuity: REQ admits a REP peer announcing an identity and rejects a PUB peer -/
example : ∃ r, admitPeer .req [(kSocketType, SockType.rep.name), (kIdentity, [1, 2])] 0 = .ok r := ⟨_, rfl⟩
example : admitPeer .req [(kSocketType, SockType.pub.name)] 0 = .error .other := rfl

/-- **Admitted only if the bytes say so.**  `HS t total stage rd ps` — the handshake invariant: `total`, the decode (C02's
`run`) of the connection's WHOLE byte stream so far, is exactly what the handshake has consumed up to its present
stage (nothing; a greeting of an acceptable version; that and a READY whose properties `admitPeer` accepts under
`ident`) followed by what its reader still has in front of it.  One poll of the future keeps it — for every stage,
segmentation, back-pressure or write error, SUB's re-announcement included — and if the poll completes with
`Ok(identity)` the stream BEGINS with an acceptable greeting and an admissible READY (`Admitted`), whatever came
in whichever pieces over however many polls.  (`C04_admit_iff` says what `admitPeer` accepts.) -/
theorem C04_world_handshake_poll (fuel : Nat) (w : World) (sid pid : Nat) (stage : AStage) (rd : Rd) (wr : Wr)
    (s : Socket) (hs : getSock w sid = some s) (total : RunOut) (hinv : HS s.typ total stage rd w.pipes)
    (p : Nat) (hpipe : rd.pipe = p) (w' : World) (f' : FutSt) (o : POut)
    (h : attachPoll fuel w sid pid stage rd wr = (w', f', o)) :
    match (generalizing := false) f', o with
    | .attach _ _ stage' rd' _, .pending => rd'.pipe = p ∧ HS s.typ total stage' rd' w'.pipes
    | _, .ready (.okId ident) => Admitted s.typ total ident
    | _, .ready (.err _) => True
    | _, _ => False :=
  attachPoll_spec fuel w sid pid stage rd wr s hs total hinv p hpipe w' f' o h

/-- the invariant holds when the future is created (a fresh reader on the pipe, whatever bytes already wait) … -/
theorem C04_world_handshake_init (t : SockType) (ps : Pipes) (p : Nat) (st : SendSt) :
    HS t (run Dec.init (inbufOf ps p)) (.sendGreeting st) { pipe := p } ps := by
  simp [HS, Rd.rem]

/-- … is kept when bytes arrive on the pipe (for the extended stream) … -/
theorem C04_world_handshake_reveal {t : SockType} {total : RunOut} {stage : AStage} {rd : Rd} {ps ps' : Pipes} (x : Bytes)
    (h : HS t total stage rd ps) (hin : inbufOf ps' rd.pipe = inbufOf ps rd.pipe ++ x) :
    HS t (total.extend x) stage rd ps' :=
  h.reveal x hin

/-- … and by everything that leaves the bytes waiting on this pipe alone (any other socket's or pipe's activity) -/
theorem C04_world_handshake_frame {t : SockType} {total : RunOut} {stage : AStage} {rd : Rd} {ps ps' : Pipes}
    (h : HS t total stage rd ps) (hf : inbufOf ps' rd.pipe = inbufOf ps rd.pipe) : HS t total stage rd ps' :=
  h.frame hf

open Zmq.W in
/-- **The deciding poll** (`C04_world_handshake_*` are the "only if" half).  The handshake future waits for the peer's
READY and the rest of the connection's byte stream begins with a complete command carrying `props` — however it was
segmented.  Then this one poll decides, exactly as `admitPeer` says: refused ⇒ the future fails with that error;
admitted under `ident` ⇒ (every socket type but SUB, whose registration first announces its subscriptions) the future
completes with `Ok(ident)` and the peer is in the socket's peer table under `ident` with this connection's write half. -/
theorem C04_world_deciding_poll (fuel : Nat) (w : World) (sid pid : Nat) (rd : Rd) (wr : Wr) (s : Socket)
    (hs : getSock w sid = some s) (props : List (Bytes × Bytes)) (rest : List Item)
    (hitems : rd.items w.pipes = .command props :: rest) (w' : World) (f' : FutSt) (o : POut)
    (h : attachPoll (fuel + 1) w sid pid .readReady rd wr = (w', f', o)) :
    match (generalizing := false) admitPeer s.typ props w.fresh with
    | .error e => o = .ready (.err e) ∧ f' = .done
    | .ok (ident, _) =>
        s.typ ≠ .sub → o = .ready (.okId ident) ∧ f' = .done ∧
          (s.dead = false → ∃ s', getSock w' sid = some s' ∧ ilookup s'.peers ident = some wr) :=
  attachPoll_readReady_decides fuel w sid pid rd wr s hs props rest hitems w' f' o h

open Zmq.W in
/-- … with `C04_admit_iff`: a READY that carries a known Socket-Type compatible with the local type under the RFC table
and an Identity of at most 255 bytes (if any) IS admitted by that poll — the connection becomes a peer; any other READY
is refused by it with an error. -/
theorem C04_world_admitted_iff_admissible (fuel : Nat) (w : World) (sid pid : Nat) (rd : Rd) (wr : Wr) (s : Socket)
    (hs : getSock w sid = some s) (hns : s.typ ≠ .sub) (props : List (Bytes × Bytes)) (rest : List Item)
    (hitems : rd.items w.pipes = .command props :: rest) (w' : World) (f' : FutSt) (o : POut)
    (h : attachPoll (fuel + 1) w sid pid .readReady rd wr = (w', f', o)) :
    (Admissible s.typ props → ∃ ident, o = .ready (.okId ident)) ∧
    (¬ Admissible s.typ props → ∃ e, o = .ready (.err e)) := by
  have hd := attachPoll_readReady_decides fuel w sid pid rd wr s hs props rest hitems w' f' o h
  constructor
  · intro ha
    obtain ⟨r, hr⟩ := (C04_admit_iff s.typ props w.fresh).mpr ha
    rcases r with ⟨ident, fr⟩
    simp only [hr] at hd
    exact ⟨ident, (hd hns).1⟩
  · intro hna
    cases hr : admitPeer s.typ props w.fresh with
    | error e => simp only [hr] at hd; exact ⟨e, hd.1⟩
    | ok r => exact absurd ((C04_admit_iff s.typ props w.fresh).mp ⟨r, hr⟩) hna

open Zmq.W in
/-- the poll that reads the peer's GREETING decides too: with a complete item at the head of the connection's byte
stream, a greeting of a version below 3.0 fails the handshake with `UnsupportedVersion`, and anything that is not a
greeting fails it — a rejected connection never gets as far as READY -/
theorem C04_world_greeting_poll_rejects (fuel : Nat) (w : World) (sid pid : Nat) (rd : Rd) (wr : Wr) (s : Socket)
    (hs : getSock w sid = some s) (i : Item) (rest : List Item)
    (hitems : rd.items w.pipes = i :: rest) (w' : World) (f' : FutSt) (o : POut)
    (h : attachPoll (fuel + 1) w sid pid .readGreeting rd wr = (w', f', o)) :
    match (generalizing := false) i with
    | .greeting g =>
        ¬ (g.major.toNat > 3 ∨ (g.major.toNat = 3 ∧ g.minor.toNat ≥ 0)) → o = .ready (.err .unsupportedVersion) ∧ f' = .done
    | _ => o = .ready (.err .other) ∧ f' = .done := by
  obtain ⟨ps', rd', -, -, e⟩ := attachPoll_readGreeting fuel w sid pid rd wr s hs i rest hitems
  rw [h] at e
  cases i with
  | greeting g =>
    intro hv
    simp only [hv, if_false] at e
    cases e
    exact ⟨rfl, rfl⟩
  | _ => cases e; exact ⟨rfl, rfl⟩

open Zmq.W in
/-- **"If", end to end.**  A socket (any type but SUB, alive) starts the handshake on a connection whose write side takes
everything at once, and the connection's byte stream — in whatever segmentation it arrived — begins with a greeting of an
acceptable version followed by a READY that is ADMISSIBLE (known Socket-Type, compatible with the local type under the RFC
table, Identity of at most 255 bytes if any).  Then ONE poll of the handshake future completes with `Ok(ident)` and the
connection IS a peer: it is in the socket's peer table under `ident`, with this connection's write half.  (Together
with `C04_world_handshake_poll` — `Ok` only if such a greeting and such a READY head the stream — this is the "if and
only if" of the property for the case where the peer's bytes are there; the correspondence's families `compat-plane`,
`deviation-*`, `product-*` exercise exactly these hypotheses against the real sockets.) -/
theorem C04_world_handshake_completes (n : Nat) (w : World) (sid pid : Nat) (rd : Rd) (wr : Wr) (s : Socket) (encG : Bytes)
    (hs : getSock w sid = some s) (hns : s.typ ≠ .sub) (halive : s.dead = false)
    (hb : wr.buf = []) (hfree : Free w.pipes wr.pipe)
    (g : Greeting) (props : List (Bytes × Bytes)) (rest : List Item)
    (hitems : rd.items w.pipes = .greeting g :: .command props :: rest) (hv : vOk g)
    (hadm : Admissible s.typ props) :
    ∃ ident w' s' wr', attachPoll (n + 4) w sid pid (.sendGreeting (.feeding encG)) rd wr = (w', .done, .ready (.okId ident)) ∧
      getSock w' sid = some s' ∧ ilookup s'.peers ident = some wr' ∧ wr'.pipe = wr.pipe := by
  obtain ⟨⟨ident, fresh'⟩, hr⟩ := (C04_admit_iff s.typ props w.fresh).mpr hadm
  exact ⟨ident, attachPoll_completes n w sid pid rd wr s encG hs hns halive hb hfree g props rest hitems hv ident fresh' hr⟩

open Zmq.W in
/-- non-vacuity of the side conditions of `C04_world_handshake_completes`: the library's own greeting has an acceptable
version; a REP's READY with a 2-byte identity is admissible at a REQ; a fresh pipe takes every write.  (That a reader in
front of `greeting ++ READY` bytes has `rd.items = [greeting, command]` is `C02_segmentation` + the decoder's grammar —
exercised on the real sockets by every `compat-plane` case of the correspondence.) -/
example : vOk Greeting.default ∧ Admissible .req [(kSocketType, SockType.rep.name), (kIdentity, [1, 2])] ∧
    Free [] 7 := by
  refine ⟨by unfold vOk; decide, ?_, by unfold Free wOf; decide⟩
  exact (C04_admit_iff .req _ 0).mp ⟨_, rfl⟩

end Zmq.C04
