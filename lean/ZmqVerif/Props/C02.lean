import ZmqVerif.Lemmas.Segment
import ZmqVerif.Lemmas.Decode
import ZmqVerif.Lemmas.WorldHist
/-!
# C02 — stream reassembly is independent of how the bytes were segmented

`Conn` is a connection's read side (decoder state + read buffer).  `Conn.feed c chunk`
is "one transport read returned `chunk`; the framed reader is polled until it has
nothing more to yield".  The theorems quantify over **all** byte streams (valid,
malformed, truncated) and **all** partitions into reads.
-/
namespace Zmq.C02
open Zmq

/-- Feeding the chunks one by one = feeding their concatenation in one read: the same items,
in the same order, with the same frame boundaries, the same final decoder state, the same
leftover bytes and the same (first) error. -/
theorem C02_segmentation (c : Conn) (hq : c.Quiescent) (chunks : List Bytes) :
    c.feedAll chunks = c.feed chunks.flatten :=
  Conn.feedAll_eq_feed c hq chunks

/-- What is decoded depends only on the concatenated stream, never on the partition —
byte-at-a-time, coalesced, or anything in between. -/
theorem C02_partition_irrelevant (c : Conn) (hq : c.Quiescent) (p₁ p₂ : List Bytes)
    (h : p₁.flatten = p₂.flatten) : c.feedAll p₁ = c.feedAll p₂ := by
  rw [C02_segmentation c hq, C02_segmentation c hq, h]

/-- The hand-over at the end of the handshake: a fresh connection (decoder waiting for the
greeting, empty buffer) is a legitimate starting point, so greeting, READY and the first
messages may arrive in one segment or in any split — the same reader (`dec`,`buf`) carries on. -/
theorem C02_handover (p₁ p₂ : List Bytes) (h : p₁.flatten = p₂.flatten) :
    Conn.init.feedAll p₁ = Conn.init.feedAll p₂ :=
  C02_partition_irrelevant Conn.init Conn.init_quiescent p₁ p₂ h

/-- Nothing is surfaced early, lost or duplicated across a read boundary: what has been
decoded from a prefix of the stream is a prefix of what is decoded from the whole stream
(and equal to it once the stream has failed). -/
theorem C02_prefix_monotone (d : Dec) (pre suf : Bytes) :
    (run d pre).items <+: (run d (pre ++ suf)).items :=
  run_append_items d pre suf

/-- Multipart messages are delivered whole: from any prefix of the bytes of a stream of
messages the decoder yields a prefix of exactly those messages — a message cut short yields
no item at all. -/
theorem C02_whole_only (ms : List (List Bytes)) (hne : ∀ m ∈ ms, m ≠ [])
    (h64 : ∀ m ∈ ms, ∀ f ∈ m, f.length < 2 ^ 64) (pre suf : Bytes)
    (hs : pre ++ suf = (ms.map encodeMsg).flatten) :
    (run Dec.framing pre).items <+: ms.map Item.message := by
  have h := C02_prefix_monotone Dec.framing pre suf
  rwa [hs, run_encodeMsgs ms hne h64] at h

/-- non-vacuity: the hypotheses are met by a fresh connection and by a connection that has
buffered half a frame header -/
example : Conn.init.Quiescent := Conn.init_quiescent
example : (⟨⟨.len ⟨false, true, false⟩, [[1]]⟩, [0, 0, 0], none, none⟩ : Conn).Quiescent := by
  right; simp [DState.need]


open Zmq.W in
/-- **Two histories of the same socket** — any interleaving of `recv` polls (completed, `Pending`, abandoned) with bytes
arriving on any connection in ANY segmentation — in which connection `k` has received the same bytes in total
(`rev₁ p = rev₂ p` for its pipe: the concatenation, not the pieces): the messages delivered from `k` so far, followed by
the complete messages still waiting in front of its reader, are THE SAME list in both.  How the transport cut the stream
into reads, when the application polled and what happened on other connections decide only how far along that list
each history is. -/
theorem C02_world_segmentation {t : SockType} {ps0 : Pipes} {m0 : Streams}
    {ps1 : Pipes} {m1 : Streams} {taken1 : Ident → List Item} {rev1 : Nat → Bytes} {log1 : List (Ident × Msg × POut)}
    {ps2 : Pipes} {m2 : Streams} {taken2 : Ident → List Item} {rev2 : Nat → Bytes} {log2 : List (Ident × Msg × POut)}
    (h1 : RecvRun t ps0 m0 ps1 m1 taken1 rev1 log1) (h2 : RecvRun t ps0 m0 ps2 m2 taken2 rev2 log2)
    (k : Ident) (rd0 rd1 rd2 : Rd) (h0 : ilookup m0 k = some rd0)
    (hk1 : ilookup m1 k = some rd1) (hk2 : ilookup m2 k = some rd2)
    (hrev : rev1 rd0.pipe = rev2 rd0.pipe) :
    (log1.filter (fun e => e.1 == k)).map (·.2.1) ++ msgsOf (rd1.items ps1) =
      (log2.filter (fun e => e.1 == k)).map (·.2.1) ++ msgsOf (rd2.items ps2) := by
  rw [← h1.exactly_once k rd0 rd1 h0 hk1, ← h2.exactly_once k rd0 rd2 h0 hk2]
  simp only [total, hrev]

open Zmq.W in
/-- in particular, once both have drained the connection (nothing complete left in front of its reader), both have
delivered exactly the same messages from it, in the same order -/
theorem C02_world_segmentation_drained {t : SockType} {ps0 : Pipes} {m0 : Streams}
    {ps1 : Pipes} {m1 : Streams} {taken1 : Ident → List Item} {rev1 : Nat → Bytes} {log1 : List (Ident × Msg × POut)}
    {ps2 : Pipes} {m2 : Streams} {taken2 : Ident → List Item} {rev2 : Nat → Bytes} {log2 : List (Ident × Msg × POut)}
    (h1 : RecvRun t ps0 m0 ps1 m1 taken1 rev1 log1) (h2 : RecvRun t ps0 m0 ps2 m2 taken2 rev2 log2)
    (k : Ident) (rd0 rd1 rd2 : Rd) (h0 : ilookup m0 k = some rd0)
    (hk1 : ilookup m1 k = some rd1) (hk2 : ilookup m2 k = some rd2)
    (hrev : rev1 rd0.pipe = rev2 rd0.pipe)
    (hd1 : msgsOf (rd1.items ps1) = []) (hd2 : msgsOf (rd2.items ps2) = []) :
    (log1.filter (fun e => e.1 == k)).map (·.2.1) = (log2.filter (fun e => e.1 == k)).map (·.2.1) := by
  have := C02_world_segmentation h1 h2 k rd0 rd1 rd2 h0 hk1 hk2 hrev
  simpa [hd1, hd2] using this

end Zmq.C02
