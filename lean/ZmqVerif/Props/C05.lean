import ZmqVerif.Lemmas.FQCons
import ZmqVerif.Lemmas.WorldHist
import ZmqVerif.Lemmas.Decode
/-!
# C05 — receive delivers each peer's messages exactly once, whole and in order

Fair-queue level (`Model.FairQueue`): the statements hold in **every reachable state**, i.e.
after any finite interleaving of receiver sections (A/B/C), `insert`, `remove`, `arrive`,
`close` — any number of peers, events landing inside the unlocked window included.
"Whole" is C02 (a stream item is one complete decoder item).

Socket level (`Model.World`, the executable composition the `world` engine runs against the real
sockets): `C05_world_*` relate one poll of `recv` — fair queue over framed readers over scripted
pipes, then the socket type's filter — to the BYTE STREAMS of the socket's connections, for
every socket type that reads through the fair queue, any number of connections, any bytes
(valid, malformed, truncated), any state of the queue.
-/
namespace Zmq.C05
open Zmq.FQ

/-- Conservation: everything a stream was given is either delivered, or the one item the
receiver is just about to return, or still queued in the stream — nothing is lost, nothing
is invented, whatever the schedule. -/
theorem C05_conservation (ops : List Op) (k : Nat) :
    let s := ops.foldl FQ.step {}
    deliveredOf s k ++ inflight s k ++ (s.peer k).q = s.hist k :=
  reachable_cons ops k

/-- Per peer, what `recv` has returned is a prefix of what arrived: same items, same order,
each at most once. -/
theorem C05_prefix_order (ops : List Op) (k : Nat) :
    deliveredOf (ops.foldl FQ.step {}) k <+: (ops.foldl FQ.step {}).hist k :=
  reachable_prefix ops k

theorem C05_no_duplicates (ops : List Op) (k : Nat) (hd : ((ops.foldl FQ.step {}).hist k).Nodup) :
    (deliveredOf (ops.foldl FQ.step {}) k).Nodup := by
  obtain ⟨t, ht⟩ := C05_prefix_order ops k
  rw [← ht] at hd
  exact (List.nodup_append.mp hd).1

/-- At most one stream is checked out of the map at any time, and it is the one the
receiver is polling — so two messages can never be merged or one split across peers. -/
theorem C05_unique_checkout (ops : List Op) (k j : Nat)
    (hk : (ops.foldl FQ.step {}).reg k = .out) (hj : (ops.foldl FQ.step {}).reg j = .out) : k = j := by
  have h := reachable_inv ops
  exact Option.some.inj (((h.outPc k).1 hk).symm.trans ((h.outPc j).1 hj))

/-- non-vacuity: a schedule with an event inside the unlocked window (peer 2 arrives while
peer 1 is being polled) delivers both items in per-peer order -/
example :
    let ops : List Op := [.insert 1, .insert 2, .arrive 1 10, .pollStart, .recvStep, .arrive 2 20,
      .recvStep, .recvStep, .pollStart, .recvStep, .recvStep, .recvStep]
    (ops.foldl FQ.step {}).out = [(1, 10), (2, 20)] := by decide

open Zmq.W in
/-- **One `recv` poll, whole and in order.**  `c k` is what the poll took off connection `k`:
by `Step`, `c k` is a PREFIX of the items the rest of `k`'s byte stream decodes to (`Rd.items`
= C02's `run` on read buffer ++ bytes waiting), the connection carries on exactly behind it, a
connection that is dropped had nothing complete left, and none appears from nowhere.  By
`RecvPost`: all connections together gave up AT MOST ONE message; exactly one iff `recv`
returns it — as the socket type presents it (`deliver`: identity prefixed for ROUTER, envelope
split off for REP, unchanged otherwise) — or rejects it with one error (REP's envelope rule);
`Pending` consumed no message.  Everything else taken is a command/greeting, which `recv`
ignores.  Hence nothing is lost, duplicated, merged, split or reordered within a connection. -/
theorem C05_world_recv (fuel : Nat) (w : World) (sid : Nat) (s : Socket) (hs : getSock w sid = some s)
    (hfq : hasFq s.typ = true) (hpd : PD s.fqStreams) (w' : World) (o : POut)
    (h : recvPoll fuel w sid = (w', o)) :
    ∃ s' c, getSock w' sid = some s' ∧ s'.typ = s.typ ∧ PD s'.fqStreams ∧
      Step w.pipes s.fqStreams w'.pipes s'.fqStreams c ∧ RecvPost s.typ c o :=
  recvPoll_spec fuel w sid s hs hfq hpd w' o h

open Zmq.W in
/-- The framed reader underneath: an item is handed out iff it is the FIRST item of the rest of
the connection's byte stream (`Rd.rem` = C02's `run` on read buffer ++ bytes waiting in the pipe;
the whole remaining run — items, decoder state, leftover, first error — is the old one minus
that item); `Pending`, end-of-stream and errors only when no complete item is left (a message cut
short by a disconnect is never surfaced); no other pipe is touched. -/
theorem C05_world_reader (fuel : Nat) (ps : Pipes) (rd : Rd) (who : RWaker)
    (hf : (inbufOf ps rd.pipe).length < fuel) (r : ReadRes) (ps' : Pipes) (rd' : Rd)
    (h : readerPoll fuel ps rd who = (r, ps', rd')) :
    rd'.pipe = rd.pipe ∧ (∀ j, j ≠ rd.pipe → inbufOf ps' j = inbufOf ps j) ∧
    (match (generalizing := false) r with
     | .item i => rd.rem ps = (rd'.rem ps').pre [i]
     | .pending => rd.rem ps = rd'.rem ps' ∧ rd.items ps = []
     | _ => rd.items ps = []) :=
  readerPoll_spec fuel ps rd who hf r ps' rd' h

open Zmq.W in
/-- The fair queue over the readers: the item it returns is the next item of the connection it
names, taken from that connection only — whatever else the call did (stale events, `Pending`
streams, ended streams whose peers were forgotten) took nothing from anybody. -/
theorem C05_world_fq (fuel : Nat) (ps : Pipes) (sid : Nat) (s : Socket) (hpd : PD s.fqStreams)
    (r : FqRes) (ps' : Pipes) (s' : Socket) (h : fqPoll fuel ps sid s = (r, ps', s')) :
    s'.typ = s.typ ∧ PD s'.fqStreams ∧ FqPost ps s.fqStreams r ps' s'.fqStreams :=
  fqPoll_spec fuel ps sid s hpd r ps' s' h

open Zmq.W in
/-- **Exactly once, whole, in order — for every history** of `recv` polls (each satisfies `Step` and
`RecvPost`, by `C05_world_recv`; `RecvRun.step` turns it into a constructor of the history) and of
bytes arriving, in any segmentation, on any connection, valid or not.  For a connection `k`
registered at the start and still registered: the complete messages in `k`'s WHOLE byte stream so
far (`total` = C02's `run` from the reader's initial state over the bytes that were waiting and
everything that has arrived since) are EXACTLY the messages `recv` has consumed from `k` — `log`
records them with what the application got: the message as the socket type presents it, or (REP)
one error — in the same order, followed by the complete messages still in front of its reader. -/
theorem C05_world_exactly_once {t : SockType} {ps0 : Pipes} {m0 : Streams} {ps : Pipes} {m : Streams}
    {taken : Ident → List Item} {rev : Nat → Bytes} {log : List (Ident × Msg × POut)}
    (h : RecvRun t ps0 m0 ps m taken rev log) (k : Ident) (rd0 rd : Rd)
    (h0 : ilookup m0 k = some rd0) (hk : ilookup m k = some rd) :
    msgsOf (total ps0 rd0 rev).items =
      (log.filter (fun e => e.1 == k)).map (·.2.1) ++ msgsOf (rd.items ps) :=
  h.exactly_once k rd0 rd h0 hk

open Zmq.W in
/-- … and for a connection that is gone (ended, failed, dropped for a protocol error): what was
consumed from it is a PREFIX of the complete messages of its byte stream — a message cut short by
the disconnect was never surfaced, none was invented. -/
theorem C05_world_gone_prefix {t : SockType} {ps0 : Pipes} {m0 : Streams} {ps : Pipes} {m : Streams}
    {taken : Ident → List Item} {rev : Nat → Bytes} {log : List (Ident × Msg × POut)}
    (h : RecvRun t ps0 m0 ps m taken rev log) (k : Ident) (rd0 : Rd)
    (h0 : ilookup m0 k = some rd0) (hk : ilookup m k = none) :
    (log.filter (fun e => e.1 == k)).map (·.2.1) <+: msgsOf (total ps0 rd0 rev).items :=
  h.gone_prefix k rd0 h0 hk

open Zmq.W in
/-- every poll of the model's `recv` extends a history (so the two theorems above speak about every
execution of `Model.World` restricted to `recv` polls and arriving bytes) -/
theorem C05_world_poll_extends {t : SockType} {ps0 : Pipes} {m0 : Streams} {ps : Pipes} {m : Streams}
    {taken : Ident → List Item} {rev : Nat → Bytes} {log : List (Ident × Msg × POut)}
    (h : RecvRun t ps0 m0 ps m taken rev log) {ps' : Pipes} {m' : Streams} {c : Ident → List Item} {o : POut}
    (hs : Step ps m ps' m' c) (hp : RecvPost t c o) :
    ∃ log', RecvRun t ps0 m0 ps' m' (fun k => taken k ++ c k) rev log' ∧
      (log' = log ∨ ∃ k w, log' = log ++ [(k, w, o)]) :=
  h.step hs hp

open Zmq.W in
/-- non-vacuity: the hypotheses are met by a PULL socket with two connections on distinct pipes,
and the relation `Step` is inhabited for it -/
example :
    let m : Streams := [([1], { pipe := 1, dec := Dec.framing }), ([2], { pipe := 2, dec := Dec.framing })]
    hasFq SockType.pull = true ∧ PD m ∧ Step [] m [] m nilC := by
  refine ⟨rfl, ?_, Step.refl _ _⟩
  intro k j rd rd2 hk hj hne
  simp only [ilookup] at hk hj
  split at hk <;> split at hj <;> simp_all <;>
  · first
      | (obtain ⟨_, rfl⟩ := hj; subst hk; simp)
      | (obtain ⟨_, rfl⟩ := hk; subst hj; simp)


open Zmq.W in
/-- for the socket types without an envelope of their own (PULL, SUB, DEALER, XPUB, …) what `recv` returned for a consumed
message IS that message, frame for frame — over every history -/
theorem C05_world_verbatim {t : SockType} (ht : t ≠ .router ∧ t ≠ .rep) {ps0 : Pipes} {m0 : Streams} {ps : Pipes} {m : Streams}
    {taken : Ident → List Item} {rev : Nat → Bytes} {log : List (Ident × Msg × POut)}
    (h : RecvRun t ps0 m0 ps m taken rev log) :
    ∀ e ∈ log, e.2.2 = .ready (.okMsg e.2.1) :=
  h.log_ok fun k w => deliver_other t k w ht.1 ht.2


open Zmq.W in
/-- **From one socket's sends to another socket's recvs.**  A connection `k` whose reader starts behind the handshake
(framing state, nothing buffered, nothing waiting) and on which — in ANY segmentation, interleaved with anything else —
exactly the bytes `encodeMsg m₁ ++ encodeMsg m₂ ++ …` have arrived: by `C10_world_to_poll` / `_rr_poll` that is what
the sends of `m₁, m₂, …` to this connection have written (`wire = base ++ encodeMsg m`, each once, whole).  Then over
every history the messages `recv` has consumed from `k`, followed by the complete ones still waiting, are EXACTLY
`m₁, m₂, …` — in order, each once, frame boundaries intact — and (by `RecvRun.log_spec`) each was handed to the
application as the socket type presents it. -/
theorem C05_world_end_to_end {t : SockType} {ps0 : Pipes} {m0 : Streams} {ps : Pipes} {m : Streams}
    {taken : Ident → List Item} {rev : Nat → Bytes} {log : List (Ident × Msg × POut)}
    (h : RecvRun t ps0 m0 ps m taken rev log) (k : Ident) (rd0 rd : Rd)
    (h0 : ilookup m0 k = some rd0) (hk : ilookup m k = some rd)
    (hstart : rd0.dec = Dec.framing ∧ rd0.buf = [] ∧ inbufOf ps0 rd0.pipe = [])
    (ms : List Msg) (hne : ∀ x ∈ ms, x ≠ []) (h64 : ∀ x ∈ ms, ∀ f ∈ x, f.length < 2 ^ 64)
    (hbytes : rev rd0.pipe = (ms.map encodeMsg).flatten) :
    (log.filter (fun e => e.1 == k)).map (·.2.1) ++ msgsOf (rd.items ps) = ms := by
  rw [← h.exactly_once k rd0 rd h0 hk]
  obtain ⟨h1, h2, h3⟩ := hstart
  simp only [total, h1, h2, h3, hbytes, List.nil_append]
  rw [run_encodeMsgs ms hne h64]
  have hm : ∀ l : List Msg, msgsOf (l.map Item.message) = l := by
    intro l
    induction l with
    | nil => rfl
    | cons x xs ih => simp only [msgsOf, List.map_cons, List.filterMap_cons] at ih ⊢; rw [ih]
  exact hm ms

end Zmq.C05
