import ZmqVerif.Lemmas.Endpoint
import ZmqVerif.Lemmas.IpLaws
import ZmqVerif.Lemmas.Ip6Laws
import ZmqVerif.Spec.EndpointGrammar
/-!
# C19 — endpoint parsing is total, strict, and round-trips through its text form

`parseEndpoint`/`display` mirror `Endpoint::from_str`/`Display` (`Model.Endpoint`), over
an abstract `IpModel` of `std::net`; `Laws` is exactly what is assumed of `std::net`.  For the
executable models of `Model.Ip` (which the correspondence check runs against the real `std`)
every law is PROVED (`Lemmas.IpLaws`, `Lemmas.Ip6Laws`), including both print/parse round trips:
`C19_roundtrip_std` has no hypothesis left.
-/
namespace Zmq.C19
open Zmq.Ep Zmq.Ip

/-- Round trip: for every endpoint obtained by parsing, formatting it and parsing the result
yields an equal endpoint (IPv6 hosts are bracketed in the text form). -/
theorem C19_roundtrip (m : IpModel) (L : Laws m) (s : Str) (e : Endpoint m)
    (hp : parseEndpoint m s = .ok e) : parseEndpoint m (display m e) = .ok e :=
  roundtrip m L s e hp

/-- The same for the executable models of `std::net`'s address text, with NO hypothesis: every law —
the IPv4 round trip of all 2^32 addresses, the IPv6 round trip of all 2^128 addresses (RFC 5952
printing against the recursive-descent parser), character sets, text shapes — is a theorem
(`Lemmas.IpLaws`, `Lemmas.Ip6Laws`).  What remains trusted is that these executable models ARE
`std::net` (sampled against the real std by the correspondence check). -/
theorem C19_roundtrip_std (s : Str) (e : Endpoint stdModel) (hp : parseEndpoint stdModel s = .ok e) :
    parseEndpoint stdModel (display stdModel e) = .ok e :=
  roundtrip stdModel stdLaws s e hp

/-- IPv6 literals: every address's text form parses back to it … -/
theorem C19_ipv6_roundtrip (a : Ip.Ip6) : Ip.parse6 (Ip.show6 a) = some a := Ip.rt6 a

/-- IPv4 literals: every address's text form parses back to it (no hypothesis) … -/
theorem C19_ipv4_roundtrip (a : Ip.Ip4) : Ip.parse4 (Ip.show4 a) = some a := Ip.rt4 a

/-- … the corner cases of RFC 5952 printing, evaluated by the kernel: all-zero,
loopback, a run in the middle, two equal runs (first wins), a run at the end, no run, v4-mapped. -/
example : ∀ a ∈ ([mkIp6 [0,0,0,0,0,0,0,0], mkIp6 [0,0,0,0,0,0,0,1], mkIp6 [1,0,0,0,5,6,7,8],
                  mkIp6 [1,0,0,4,0,0,7,8], mkIp6 [1,2,3,4,5,6,0,0], mkIp6 [1,2,3,4,5,6,7,8],
                  mkIp6 [0,0,0,0,0,0xffff,0x0102,0x0304], mkIp6 [0xfe80,0,0,0,0,0,0,1]] : List Ip.Ip6),
    Ip.parse6 (Ip.show6 a) = some a := by decide +kernel

/-- Strict (⇒): whatever parses has exactly the shape the grammar allows. -/
theorem C19_strict_sound (m : IpModel) (s : Str) (e : Endpoint m)
    (hp : parseEndpoint m s = .ok e) : EndpointOk m s e := parse_sound hp

/-- Strict (⇐): everything of that shape parses, to exactly that endpoint. -/
theorem C19_strict_complete (m : IpModel) (s : Str) (e : Endpoint m)
    (h : EndpointOk m s e) : parseEndpoint m s = .ok e := parse_complete h

/-- Strict: the parser accepts exactly the grammar of the property. -/
theorem C19_strict (m : IpModel) (s : Str) (e : Endpoint m) :
    parseEndpoint m s = .ok e ↔ EndpointOk m s e :=
  ⟨C19_strict_sound m s e, C19_strict_complete m s e⟩

/-- Total: the only operation of the parser that can abort is the slice
`&s[1..s.len() - 1]` in `Host::try_from`; its guard puts both cut points in range and on
character boundaries (a one-byte `[` in front, a one-byte `]` at the end). -/
theorem C19_total_slice (h : Str) (hb : bracketed h = true) :
    ∃ inner, h = '[' :: inner ++ [']'] ∧ ('[' : Char).utf8Size = 1 ∧ (']' : Char).utf8Size = 1 ∧
      (h.drop 1).dropLast = inner := by
  simp only [bracketed, Bool.and_eq_true, beq_iff_eq] at hb
  obtain ⟨⟨hh, _⟩, hl⟩ := hb
  obtain ⟨init, rfl⟩ := List.getLast?_eq_some_iff.mp hl
  cases init with
  | nil => simp at hh
  | cons c inner =>
    simp at hh; subst hh
    exact ⟨inner, by simp, by decide, by decide, by simp⟩

/-- IPv4 literals and IPv6 literals (bare or in brackets) become addresses, not domain names. -/
theorem C19_ip_literals (m : IpModel) (L : Laws m) :
    (∀ hs a, m.parse4 hs = some a → parseHost m hs = .v4 a) ∧
    (∀ hs a, m.parse4 hs = none → bracketed hs = false → m.parse6 hs = some a → parseHost m hs = .v6 a) ∧
    (∀ a, parseHost m ('[' :: (m.show6 a ++ [']'])) = .v6 a) := by
  refine ⟨?_, ?_, parseHost_bracketed L⟩
  · intro hs a h; simp [parseHost, h]
  · intro hs a h4 hb h6; simp [parseHost, h4, hb, h6]

/-- non-vacuity: the grammar is inhabited on both branches, e.g. `tcp://a:0` and `ipc://x` -/
example (m : IpModel) : EndpointOk m "tcp://a:0".toList (.tcp (parseHost m ['a']) 0) :=
  EndpointOk.tcp ['a'] ['0'] (by simp) (by simp) (by simp) (by simp; decide) (by decide)
example (m : IpModel) : EndpointOk m "ipc://x".toList (.ipc ['x']) :=
  EndpointOk.ipc ['x'] (by simp) (by simp)

end Zmq.C19
