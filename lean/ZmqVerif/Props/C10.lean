import ZmqVerif.Lemmas.WorldMaps
import ZmqVerif.Lemmas.WorldSendStart
import ZmqVerif.Lemmas.WorldSend
import ZmqVerif.Lemmas.WorldRotation
/-!
# C10 — round-robin senders deliver each message to exactly one peer, in rotation

`rrNext` (`Model.Sockets`) is the pop-front/push-back of `send_round_robin` when every queued
identity is live; `sendRRPoll` (`Model.World`) is the whole of `send_round_robin` for PUSH and
DEALER, including vanished peers and partial writes.
-/
namespace Zmq.C10
open Zmq Zmq.W

/-- `k` consecutive successful sends: the peers hit, in order, and the queue afterwards -/
def sendMany {α} : Nat → List α → List α × List α
  | 0, q => ([], q)
  | k+1, q =>
    match rrNext q with
    | none => ([], q)
    | some (x, q') => let r := sendMany k q'; (x :: r.1, r.2)

theorem sendMany_prefix {α} (a b : List α) : sendMany a.length (a ++ b) = (a, b ++ a) := by
  induction a generalizing b with
  | nil => simp [sendMany]
  | cons x a ih =>
    simp only [List.length_cons, sendMany, List.cons_append, rrNext]
    have := ih (b ++ [x])
    rw [← List.append_assoc] at this
    rw [this]; simp

/-- **Strict rotation**: with a stable set of `n` peers, `n` consecutive successful sends reach
every peer exactly once, in queue order, and restore the queue … -/
theorem C10_full_round {α} (q : List α) : sendMany q.length q = (q, q) := by
  simpa using sendMany_prefix q []

/-- … hence `n` different peers when the queue is a duplicate-free enumeration of them. -/
theorem C10_rotation_distinct {α} (q : List α) (h : q.Nodup) : (sendMany q.length q).1.Nodup := by
  rw [C10_full_round]; exact h

/-- A send keeps the queue a permutation of itself. -/
theorem C10_rotation_perm {α} {q q' : List α} {x : α} (h : rrNext q = some (x, q')) : q'.Perm q := by
  cases q with
  | nil => simp [rrNext] at h
  | cons y ys =>
    simp [rrNext] at h; obtain ⟨rfl, rfl⟩ := h
    exact List.perm_append_singleton _ _

/-- **No peer**: with an empty rotation the send fails, hands the message back intact and the
whole world (every wire) is unchanged. -/
theorem C10_empty (w : World) (sid : Nat) (s : Socket) (m : Msg) (fuel : Nat)
    (hs : getSock w sid = some s) (hr : s.rr = []) :
    sendRRPoll (fuel + 1) w sid m none = (w, .done, .ready (.errReturn m)) := by
  simp [sendRRPoll, hs, hr]

/-- **Exactly one peer, fully written**: a round-robin write that completes touched no pipe but
the chosen peer's, and left that peer's buffer empty (the message is on the wire in full). -/
theorem C10_one_peer (w : World) (sid : Nat) (s : Socket) (m : Msg) (k : Ident) (st : SendSt) (wr : Wr)
    (fuel : Nat) (hs : getSock w sid = some s) (hp : ilookup s.peers k = some wr)
    (w' : World) (f' : FutSt) (hdone : sendRRPoll (fuel + 1) w sid m (some (k, st)) = (w', f', .ready .okUnit)) :
    (∀ j, j ≠ wr.pipe → getPipe w'.pipes j = getPipe w.pipes j) ∧
    (∃ s' wr', getSock w' sid = some s' ∧ ilookup s'.peers k = some wr' ∧ wr'.buf = [] ∧
       s'.rr = s.rr ++ [k]) := by
  rw [sendRRPoll_some_eq] at hdone
  simp only [sendStep, hs, hp] at hdone
  have hframe := wrSendPoll_frame w.pipes wr st
  have hbuf := wrSendPoll_done_buf w.pipes wr st
  generalize wrSendPoll w.pipes wr st = q at hdone hframe hbuf
  obtain ⟨ps, wr', st', r⟩ := q
  cases r <;> cases hdone
  exact ⟨hframe, _, wr', getSock_setSock_same _ _ _, ilookup_iinsert_same _ _ _, hbuf rfl, rfl⟩

/-- non-vacuity: three peers, three sends, three different targets, queue restored -/
example : sendMany 3 [1, 2, 3] = ([1, 2, 3], [1, 2, 3]) := by decide

/-- `SendInv w sid k p base enc st`: the invariant of a send in progress to peer `k` (pipe `p`) — beyond `base` (where
the connection's outgoing stream stood when the send began) the connection has been handed nothing yet, or the WHOLE
encoding, never a part and never twice.  It holds when the send starts … -/
theorem C10_world_send_start (w : World) (sid : Nat) (s : Socket) (k : Ident) (wr : Wr) (enc : Bytes)
    (hs : getSock w sid = some s) (hp : ilookup s.peers k = some wr) :
    SendInv w sid k wr.pipe (outOf w.pipes wr) enc (.feeding enc) :=
  SendInv.start w sid s k wr enc hs hp

/-- … every `Pending` poll of a round-robin send (PUSH, DEALER) keeps it, and `Ready(Ok)` means: the chosen
connection's wire is EXACTLY `base` followed by the complete encoding — under any back-pressure, over any number
of polls — while no other connection's write side is touched (also when the write fails and the peer is forgotten) … -/
theorem C10_world_rr_poll (fuel : Nat) (w : World) (sid : Nat) (m : Msg) (k : Ident) (p : Nat) (base enc : Bytes) (st : SendSt)
    (hinv : SendInv w sid k p base enc st) (w' : World) (f' : FutSt) (o : POut)
    (h : sendRRPoll (fuel + 1) w sid m (some (k, st)) = (w', f', o)) :
    (∀ j, j ≠ p → wOf w'.pipes j = wOf w.pipes j) ∧
    (match (generalizing := false) f', o with
     | .sendRR _ _ (some (k', st')), .pending => k' = k ∧ SendInv w' sid k p base enc st'
     | _, .ready .okUnit => (wOf w'.pipes p).wire = base ++ enc
     | _, .ready (.err _) => True
     | _, _ => False) :=
  sendRRPoll_spec fuel w sid m k p base enc st hinv w' f' o h

/-- … the same for the sends that write to a peer chosen by the protocol (REQ's rotation, REP's requester, ROUTER's
addressee) … -/
theorem C10_world_to_poll (w : World) (sid : Nat) (k : Ident) (p : Nat) (base enc : Bytes) (st : SendSt) (sc : Bool)
    (hinv : SendInv w sid k p base enc st) (w' : World) (f' : FutSt) (o : POut)
    (h : sendToPoll w sid k st sc = (w', f', o)) :
    (∀ j, j ≠ p → wOf w'.pipes j = wOf w.pipes j) ∧
    (match (generalizing := false) f', o with
     | .sendTo _ k' st' _, .pending => k' = k ∧ SendInv w' sid k p base enc st'
     | _, .ready .okUnit => (wOf w'.pipes p).wire = base ++ enc
     | _, .ready (.err _) => True
     | _, _ => False) :=
  sendToPoll_spec w sid k p base enc st sc hinv w' f' o h

/-- … and between two polls the environment may change the pipe's write credit or make its writes fail: what has been
handed to the connection stays handed. -/
theorem C10_world_send_env {w : World} {sid : Nat} {k : Ident} {p : Nat} {base enc : Bytes} {st : SendSt}
    (h : SendInv w sid k p base enc st) (w' : World) (hs : getSock w' sid = getSock w sid)
    (hw : (wOf w'.pipes p).wire = (wOf w.pipes p).wire) : SendInv w' sid k p base enc st :=
  h.env w' hs hw

/-- **`send_round_robin` (PUSH, DEALER), first poll, against the wires**: entries of vanished peers are skipped; with no
live peer the message is handed back intact and NOTHING is written; otherwise exactly one registered peer is chosen
and the send is in progress to it with the encoding of the message, unchanged. -/
theorem C10_world_rr_start (fuel : Nat) (w : World) (sid : Nat) (m : Msg) (s : Socket) (hs : getSock w sid = some s)
    (w' : World) (f' : FutSt) (o : POut) (h : sendRRPoll fuel w sid m none = (w', f', o)) :
    match (generalizing := false) f', o with
    | .sendRR _ _ (some (k, st)), .pending =>
        ∃ wr, ilookup s.peers k = some wr ∧
          SendInv w' sid k wr.pipe (outOf w.pipes wr) (encodeMsg m) st ∧
          ∀ j, j ≠ wr.pipe → wOf w'.pipes j = wOf w.pipes j
    | _, .ready .okUnit =>
        ∃ k wr, ilookup s.peers k = some wr ∧
          (wOf w'.pipes wr.pipe).wire = outOf w.pipes wr ++ encodeMsg m ∧
          ∀ j, j ≠ wr.pipe → wOf w'.pipes j = wOf w.pipes j
    | _, .ready (.errReturn m') => m' = m ∧ ∀ j, wOf w'.pipes j = wOf w.pipes j
    | _, .ready (.err _) => True
    | _, _ => False :=
  sendRRStart_spec fuel w sid m s hs w' f' o h

/-- **Who is chosen** by the first poll of a round-robin send (`FirstLive s k rest`: `k` is the first entry of the
rotation queue whose peer is still registered; what precedes it has vanished and is dropped, what follows it — `rest` —
stays in order): still writing ⇒ the future writes to `k` and the queue holds `rest`; done ⇒ the queue is `rest` with `k`
appended; the message is handed back only if NO entry is registered. -/
theorem C10_world_rr_choice (fuel : Nat) (w : World) (sid : Nat) (m : Msg) (s : Socket) (hs : getSock w sid = some s)
    (w' : World) (f' : FutSt) (o : POut) (h : sendRRPoll fuel w sid m none = (w', f', o)) :
    (o = .pending → ∃ k st' rest, f' = .sendRR sid m (some (k, st')) ∧ FirstLive s k rest ∧
        ∃ s', getSock w' sid = some s' ∧ s'.rr = rest) ∧
    (o = .ready .okUnit → ∃ k rest, FirstLive s k rest ∧ ∃ s', getSock w' sid = some s' ∧ s'.rr = rest ++ [k]) ∧
    (∀ m', o = .ready (.errReturn m') → ∀ j ∈ s.rr, ilookup s.peers j = none) :=
  sendRRStart_choice fuel w sid m s hs w' f' o h

/-- … the later polls of that send leave the queue alone while `Pending` and append the chosen peer when the send
completes (so a peer is never in the queue twice, and is out of it exactly while a message is being written to it) -/
theorem C10_world_rr_later_polls (fuel : Nat) (w : World) (sid : Nat) (m : Msg) (k : Ident) (st : SendSt) (s : Socket)
    (hs : getSock w sid = some s) (w' : World) (f' : FutSt) (o : POut)
    (h : sendRRPoll (fuel + 1) w sid m (some (k, st)) = (w', f', o)) :
    (o = .pending → (∃ st', f' = .sendRR sid m (some (k, st'))) ∧ ∃ s', getSock w' sid = some s' ∧ s'.rr = s.rr) ∧
    (o = .ready .okUnit → ∃ s', getSock w' sid = some s' ∧ s'.rr = s.rr ++ [k]) ∧
    (∀ m', o ≠ .ready (.errReturn m')) :=
  sendRRPoll_some_rr fuel w sid m k st s hs w' f' o h

/-- **One send = one step of the rotation** (`rrNext`, about which `C10_full_round` / `_rotation_distinct` speak): with
every entry of the queue registered, a send that completes at once has written the WHOLE encoding to the connection of
the queue's HEAD, to no other connection, and the queue afterwards is `rrNext` of the queue before. -/
theorem C10_world_strict_rotation (fuel : Nat) (w : World) (sid : Nat) (m : Msg) (s : Socket) (hs : getSock w sid = some s)
    (hlive : ∀ j ∈ s.rr, (ilookup s.peers j).isSome)
    (w' : World) (f' : FutSt) (h : sendRRPoll fuel w sid m none = (w', f', .ready .okUnit)) :
    ∃ k wr s', ilookup s.peers k = some wr ∧ getSock w' sid = some s' ∧ rrNext s.rr = some (k, s'.rr) ∧
      (wOf w'.pipes wr.pipe).wire = outOf w.pipes wr ++ encodeMsg m ∧
      ∀ j, j ≠ wr.pipe → wOf w'.pipes j = wOf w.pipes j := by
  obtain ⟨k, rest, wr, ⟨stale, h1, h2, _⟩, h4, h5, h6, s', h7, h8⟩ := sendRRStart_done_who fuel w sid m s hs w' f' h
  have hst : stale = [] := by
    cases stale with
    | nil => rfl
    | cons j js =>
      have := hlive j (by rw [h1]; simp)
      rw [h2 j (by simp)] at this
      cases this
  subst hst
  refine ⟨k, wr, s', h4, h7, ?_, h5, h6⟩
  simp only [List.nil_append] at h1
  rw [h1, h8]; rfl

end Zmq.C10
