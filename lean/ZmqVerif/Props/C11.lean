import ZmqVerif.Lemmas.Sockets
import ZmqVerif.Lemmas.WorldHist
import ZmqVerif.Lemmas.WorldXpubSubs
import ZmqVerif.Spec.PubSub
import ZmqVerif.Lemmas.WorldPubReader
/-!
# C11 — PUB/XPUB deliver a message to a subscriber iff a subscription is a prefix

`onMsg`/`hit`/`copies` are the functions `Model.World` runs for `message_received` and for the
matching loop of `PubSocket::send` / `XPubSocket::send`; `SpecPS` is the multiset reading of
the property.
-/
namespace Zmq.C11
open Zmq

/-- abstraction: the code's list of subscriptions ↦ how often each topic occurs in it -/
def abs (subs : List Bytes) : SpecPS.Counts := fun t => subs.count t

/-- Refinement: processing any message from the subscriber (subscribe, unsubscribe, garbage,
empty, multi-frame) commutes with the abstraction — subscriptions are counted, each
unsubscribe cancels one equal subscribe, everything else changes nothing. -/
theorem C11_refines (subs : List Bytes) (frames : Msg) :
    abs (onMsg subs frames) = SpecPS.onMsg (abs subs) frames := by
  unfold onMsg SpecPS.onMsg
  match frames with
  | [] => rfl
  | [[]] => rfl
  | [b :: t] =>
    simp only [onData]
    by_cases h1 : b = 1
    · simp only [h1, ↓reduceIte]
      funext x
      by_cases hx : x = t
      · subst hx; simp [abs, List.count_append]
      · have : ¬ t = x := fun e => hx e.symm
        simp [abs, List.count_append, hx, this]
    · by_cases h0 : b = 0
      · simp only [h0, ↓reduceIte]
        funext x
        by_cases hx : x = t
        · subst hx; simp [abs, List.count_erase_self]
        · simp [abs, hx, List.count_erase_of_ne hx]
      · simp only [h1, h0, ↓reduceIte]
  | _ :: _ :: _ => simp

/-- Delivery decision: a copy is written iff some topic with positive count is a byte-prefix
of the first frame (topic equal to the frame matches; topic longer than the frame does not). -/
theorem C11_deliver_iff (subs : List Bytes) (topic : Bytes) :
    copies subs topic = 1 ↔ SpecPS.Matches (abs subs) topic := by
  rw [copies_eq_one_iff, hit_iff]
  simp only [SpecPS.Matches, abs, gt_iff_lt, List.count_pos_iff]

/-- Exactly once even when several subscriptions match. -/
theorem C11_once (subs : List Bytes) (topic : Bytes) : copies subs topic ≤ 1 := by
  unfold copies; split <;> simp

/-- The empty subscription matches everything. -/
theorem C11_empty_matches_all (subs : List Bytes) (topic : Bytes) (h : [] ∈ subs) :
    copies subs topic = 1 := by
  rw [C11_deliver_iff]; exact ⟨[], List.count_pos_iff.2 h, List.nil_prefix⟩

/-- Malformed subscription messages change nothing: empty messages, multi-frame messages, an
empty frame, a first byte other than 0/1. -/
theorem C11_garbage_noop (subs : List Bytes) :
    onMsg subs [] = subs ∧ onMsg subs [[]] = subs ∧
    (∀ a b r, onMsg subs (a :: b :: r) = subs) ∧
    (∀ b t, b ≠ 0 → b ≠ 1 → onMsg subs [b :: t] = subs) := by
  refine ⟨rfl, rfl, fun _ _ _ => rfl, ?_⟩
  intro b t h0 h1
  simp [onMsg, onData, h0, h1]

/-- A whole history: the subscriptions after any list of messages from the subscriber are the
multiset the Spec computes. -/
theorem C11_history (hist : List Msg) :
    abs (hist.foldl onMsg []) = hist.foldl SpecPS.onMsg (fun _ => 0) :=
  -- `fun _ => 0` is `abs []` by computation
  (List.foldl_hom abs (g₂ := SpecPS.onMsg) (H := fun s m => (C11_refines s m).symm)).symm

example : copies (onMsg (onMsg (onMsg [] [[1, 65]]) [[1, 65]]) [[0, 65]]) [65, 66] = 1 := by decide
example : copies (onMsg (onMsg [] [[1, 65, 66]]) [[0, 65, 66]]) [65, 66] = 0 := by decide
example : copies (onMsg [] [[1, 65, 66, 67]]) [65, 66] = 0 := by decide

open Zmq.W in
/-- **"Subscriptions are counted per connection in the order that peer's subscribe/unsubscribe messages are
processed" — at byte level.**  PUB reads each subscriber in a task of its own.  Run until it is `Pending` or
ends, the task has consumed a PREFIX `c` of the items the rest of that connection's byte stream decodes to (C02's
`run`; the reader carries on exactly behind it), and the subscription list kept for that subscriber is the old one
with `onMsg` folded over exactly the MESSAGES in `c`, in order — commands and greetings in between change nothing,
malformed subscription messages change nothing (`C11_garbage_noop`); no other subscriber's list and no other pipe's
waiting bytes are touched; if the task ends, nothing complete was left unprocessed. -/
theorem C11_world_pub_reader (fuel : Nat) (ps : Pipes) (s : Socket) (k : Ident) (rd : Rd)
    (subs : List Bytes) (hsub : ilookup s.subsOf k = some subs)
    (ps' : Pipes) (s' : Socket) (r : Option Rd) (h : readerTask fuel ps s k rd = (ps', s', r)) :
    ∃ c : List Item,
      (∀ j, j ≠ rd.pipe → inbufOf ps' j = inbufOf ps j) ∧
      (∀ j, j ≠ k → ilookup s'.subsOf j = ilookup s.subsOf j) ∧
      (match r with
       | some rd' => rd'.pipe = rd.pipe ∧ rd.rem ps = (rd'.rem ps').pre c ∧
           ilookup s'.subsOf k = some ((msgsOf c).foldl onMsg subs)
       | none => rd.items ps = c) :=
  readerTask_spec fuel ps s k rd subs hsub ps' s' r h

open Zmq.W in
/-- **XPUB keeps its subscribers' lists exactly as PUB does — inside `recv`.**  After one poll of an XPUB `recv`: every
subscriber's list is what it was, or gone with its peer — except that when the poll returns a message, the list of ONE
subscriber (the sender, by `C05_world_recv`) has `onMsg` applied to exactly that message, which is handed to the
application verbatim. -/
theorem C11_world_xpub_subs (fuel : Nat) (w : World) (sid : Nat) (s : Socket) (hs : getSock w sid = some s)
    (ht : s.typ = .xpub) (w' : World) (o : POut) (h : recvPoll fuel w sid = (w', o)) :
    ∃ s', getSock w' sid = some s' ∧
      (match (generalizing := false) o with
       | .ready (.okMsg m) => ∃ k, ∀ j,
           ilookup s'.subsOf j = none ∨ ilookup s'.subsOf j = ilookup s.subsOf j ∨
           (j = k ∧ ∃ old, ilookup s.subsOf k = some old ∧ ilookup s'.subsOf k = some (onMsg old m))
       | _ => ∀ j, ilookup s'.subsOf j = none ∨ ilookup s'.subsOf j = ilookup s.subsOf j) :=
  recvPoll_xpub_subs fuel w sid s hs ht w' o h

open Zmq.W in
/-- **XPUB hands every subscription message to the application verbatim and in per-peer order** — over every history of
`recv` polls and arriving bytes: what `recv` has returned for connection `k` (each entry of `log` for `k`: the message
itself, frame for frame, never an error), followed by the complete messages still waiting in front of `k`'s reader, is
exactly the sequence of complete messages in `k`'s whole byte stream so far. -/
theorem C11_world_xpub_verbatim {ps0 : Pipes} {m0 : Streams} {ps : Pipes} {m : Streams}
    {taken : Ident → List Item} {rev : Nat → Bytes} {log : List (Ident × Msg × POut)}
    (h : RecvRun .xpub ps0 m0 ps m taken rev log) (k : Ident) (rd0 rd : Rd)
    (h0 : ilookup m0 k = some rd0) (hk : ilookup m k = some rd) :
    (∀ e ∈ log, e.2.2 = .ready (.okMsg e.2.1)) ∧
    msgsOf (total ps0 rd0 rev).items = (log.filter (fun e => e.1 == k)).map (·.2.1) ++ msgsOf (rd.items ps) :=
  ⟨h.log_ok (f := fun _ w => w) fun _ _ => rfl, h.exactly_once k rd0 rd h0 hk⟩

end Zmq.C11
