import ZmqVerif.Lemmas.Sockets
import ZmqVerif.Lemmas.WorldHist
import ZmqVerif.Lemmas.WorldSendStart
/-!
# C07 — REQ/REP envelopes are added, preserved and stripped exactly

On frame lists (`Model.Sockets`): `reqWrap`/`reqUnwrap` (REQ), `repSplit`/`repReply` (REP),
`routerIn`/`routerOut` (a ROUTER hop).  `Model.World` calls exactly these functions; the wire
bytes are `encodeMsg` of the results (C01).
-/
namespace Zmq.C07
open Zmq

/-- REQ sends the application's frames behind exactly one empty delimiter frame. -/
theorem C07_req_wire (p : Msg) : reqWrap p = [] :: p := rfl

/-- REQ returns a reply's frames with exactly that delimiter removed … -/
theorem C07_req_recv (r : Msg) (hr : r ≠ []) : reqUnwrap ([] :: r) = some r :=
  (reqUnwrap_eq_some_iff _ _).2 ⟨rfl, hr⟩

/-- … and accepts nothing else: whatever it returns is the message minus a leading empty frame. -/
theorem C07_req_recv_only (m r : Msg) (h : reqUnwrap m = some r) : m = [] :: r ∧ r ≠ [] :=
  (reqUnwrap_eq_some_iff m r).1 h

/-- REP hands the application exactly the frames that follow the FIRST empty delimiter, and
keeps the frames up to and including it — so empty frames inside the payload are untouched. -/
theorem C07_rep_split (pre rest : Msg) (hpre : ∀ f ∈ pre, f ≠ []) (hrest : rest ≠ []) :
    repSplit (pre ++ [[]] ++ rest) = some (pre ++ [[]], rest) := by
  have : 0 < rest.length := List.length_pos_iff.2 hrest
  refine (repSplit_eq_some_iff _ _ _).2 ⟨rfl, hrest, ?_, ?_⟩
  · rw [repCut_first_empty pre rest hpre, List.length_append, List.length_singleton]
  · simp only [List.length_append, List.length_singleton]; omega

/-- REP's reply is prefixed with exactly the frames that preceded and included the delimiter. -/
theorem C07_rep_reply (pre r : Msg) : repReply (pre ++ [[]]) r = pre ++ [[]] ++ r := rfl

/-- Whatever REP accepts: envelope ++ payload is the request, unmodified, and the payload is
never empty — a request with no frame after its delimiter is rejected, not handed over as a
message with zero frames. -/
theorem C07_no_empty_message (m env data : Msg) (h : repSplit m = some (env, data)) :
    env ++ data = m ∧ data ≠ [] := by
  have h := (repSplit_eq_some_iff m env data).1 h
  exact ⟨h.1, h.2.1⟩

/-- a chain of ROUTER hops on the way in: each prepends the identity of the connection the
message arrived on (nearest hop first in `ids`) -/
def hopsIn (ids : List Bytes) (m : Msg) : Msg := ids.foldl (fun m i => routerIn i m) m

/-- the way back: each ROUTER pops the first frame, which must be the identity it added -/
def hopsOut : List Bytes → Msg → Option Msg
  | [], m => some m
  | i :: is, m =>
    match routerOut m with
    | some (t, rest) => if t = i then hopsOut is rest else none
    | none => none

theorem hopsIn_eq (ids : List Bytes) (m : Msg) : hopsIn ids m = ids.reverse ++ m := by
  induction ids generalizing m with
  | nil => rfl
  | cons i is ih =>
    rw [List.reverse_cons, List.append_assoc]
    exact ih (i :: m)

theorem hopsOut_append (is : List Bytes) (m : Msg) : hopsOut is (is ++ m) = some m := by
  induction is with
  | nil => rfl
  | cons i t ih => simp [hopsOut, routerOut, ih]

/-- **Chain**: for any routing prefix added by intermediaries (identities of 1..255 bytes) and
any non-empty payloads, the request payload reaches the REP application unmodified, and the
reply retraces the request's route and reaches the REQ application unmodified. -/
theorem C07_chain (ids : List Bytes) (p r : Msg) (hids : ∀ i ∈ ids, i ≠ []) (hp : p ≠ []) (hr : r ≠ []) :
    ∃ env, repSplit (hopsIn ids (reqWrap p)) = some (env, p) ∧
      hopsOut ids.reverse (repReply env r) = some (reqWrap r) ∧
      reqUnwrap (reqWrap r) = some r := by
  refine ⟨ids.reverse ++ [[]], ?_, ?_, ?_⟩
  · rw [hopsIn_eq, reqWrap]
    have := C07_rep_split ids.reverse p (by intro f hf; exact hids f (by simpa using hf)) hp
    simpa using this
  · rw [repReply, reqWrap]
    have := hopsOut_append ids.reverse ([] :: r)
    simp only [List.append_assoc, List.singleton_append]
    exact this
  · exact C07_req_recv r hr

/-- non-vacuity: a payload with empty frames behind a two-hop envelope -/
example : repSplit [[1], [2, 2], [], [], [7], []] = some ([[1], [2, 2], []], [[], [7], []]) := by decide
example : repSplit [[1], []] = none ∧ repSplit [[]] = none ∧ repSplit [[1]] = none := by decide

open Zmq.W in
/-- **`ReqSocket::send` against the wires** (first poll; `C10_world_to_poll` carries the invariant over the later ones):
whatever the rotation looks like — stale entries of lost servers are skipped — a refused send hands the message back
and touches no wire; otherwise EXACTLY ONE registered peer is chosen and the send is in progress to it with the
encoding of `[delimiter] ++ message` (`reqWrap`), `base` being that connection's outgoing stream at the start: the
request goes out behind exactly one empty delimiter frame, on exactly that connection, and if the send completes at
once that wire is `base` followed by the complete encoding. -/
theorem C07_world_req_send (fuel : Nat) (w : World) (sid : Nat) (m : Msg) (s : Socket) (hs : getSock w sid = some s)
    (w' : World) (f' : FutSt) (o : POut) (h : reqSendStart fuel w sid m = (w', f', o)) :
    match (generalizing := false) f', o with
    | .sendTo _ k st _, .pending =>
        ∃ wr, ilookup s.peers k = some wr ∧
          SendInv w' sid k wr.pipe (outOf w.pipes wr) (encodeMsg (reqWrap m)) st ∧
          ∀ j, j ≠ wr.pipe → wOf w'.pipes j = wOf w.pipes j
    | _, .ready .okUnit =>
        ∃ k wr, ilookup s.peers k = some wr ∧
          (wOf w'.pipes wr.pipe).wire = outOf w.pipes wr ++ encodeMsg (reqWrap m) ∧
          ∀ j, j ≠ wr.pipe → wOf w'.pipes j = wOf w.pipes j
    | _, .ready (.errReturn m') => m' = m ∧ ∀ j, wOf w'.pipes j = wOf w.pipes j
    | _, .ready (.err _) => True
    | _, _ => False :=
  reqSendStart_spec fuel w sid m s hs w' f' o h

open Zmq.W in
/-- **Every request a REP hands to the application, over every history** of `recv` polls and arriving bytes: for each
message `w` consumed from connection `k`, `recv` returned exactly the frames BEHIND the envelope (`repSplit w`: everything
up to and including the first empty frame is the envelope) — or one error when `w` has no such shape; the payload frames
are `w`'s own, unmodified. -/
theorem C07_world_rep_recv {ps0 : Pipes} {m0 : Streams} {ps : Pipes} {m : Streams}
    {taken : Ident → List Item} {rev : Nat → Bytes} {log : List (Ident × Msg × POut)}
    (h : RecvRun .rep ps0 m0 ps m taken rev log) :
    ∀ e ∈ log, (∃ env body, repSplit e.2.1 = some (env, body) ∧ env ++ body = e.2.1 ∧ e.2.2 = .ready (.okMsg body)) ∨
               (repSplit e.2.1 = none ∧ ∃ x, e.2.2 = .ready (.err x)) := by
  intro e he
  rcases h.log_spec e he with ⟨r, h1, h2⟩ | ⟨x, h1, h2⟩
  · left
    simp only [deliver, Option.map_eq_some_iff] at h2
    obtain ⟨⟨env, body⟩, h3, rfl⟩ := h2
    exact ⟨env, body, h3, (C07_no_empty_message _ env body h3).1, h1⟩
  · right
    simp only [deliver, Option.map_eq_none_iff] at h2
    exact ⟨h2, x, h1⟩

end Zmq.C07
