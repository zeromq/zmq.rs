import ZmqVerif.Props.C08
import ZmqVerif.Lemmas.FQCons
import ZmqVerif.Lemmas.WorldHist
/-!
# C14 — dropping a pending recv loses nothing and leaves the socket usable

In `Model.World` a user future is a value of `FutSt`; abandoning it discards that value and
nothing else.  For the fair-queue sockets the `recv` future is `FutSt.recv sid`: it has **no
field besides the socket id** — check-out and put-back of a stream happen inside one
synchronous poll (`fqPoll`) — so there is nothing an abandon could lose; the correspondence
check establishes that the real futures behave like this stateless model at every
cancellation point.  For REQ the request marker lives in the socket, not in the future.
-/
namespace Zmq.C14
open Zmq Zmq.W

/-- A fair-queue `recv` that returns `Pending` leaves behind a future indistinguishable from a
freshly issued one: abandoning it and calling `recv` again is the same as polling it again. -/
theorem C14_fq_recv_stateless (w : World) (sid : Nat) (w' : World) (f' : FutSt)
    (h : pollFut w (.recv sid) = (w', f', .pending)) : f' = .recv sid := by
  simp only [pollFut] at h
  generalize recvPoll (recvFuel w sid) w sid = r at h
  obtain ⟨w1, o⟩ := r
  cases o with
  | pending => simp at h; exact h.2.symm
  | ready v => simp at h

/-- The same for REQ … -/
theorem C14_req_recv_stateless (w : World) (sid : Nat) (w' : World) (f' : FutSt)
    (h : pollFut w (.reqRecv sid) = (w', f', .pending)) : f' = .reqRecv sid := by
  simp only [pollFut] at h
  generalize reqRecvPoll w sid = r at h
  obtain ⟨w1, o⟩ := r
  cases o with
  | pending => simp at h; exact h.2.symm
  | ready v => simp at h

/-- … whose `recv`, while pending, keeps the request marker in the socket: a REQ socket whose
recv was abandoned still owes that recv, so the next `send` is refused
(`C08_req_out_of_turn_send`) and a later `recv` is paired with the outstanding request. -/
theorem C14_req_owes (w : World) (sid : Nat) (s : Socket) (hs : getSock w sid = some s) (w' : World)
    (h : reqRecvPoll w sid = (w', .pending)) :
    C08.phase w sid = .awaiting ∧ C08.phase w' sid = .awaiting :=
  (C08.C08_req_recv_alternates w sid s hs).2 w' h

/-- At the fair-queue level an abandoned-and-reissued `recv` is a *spurious poll* (a
`pollStart` from `parked` without a notification), which the model allows anywhere; the
conservation law holds for all such schedules, so nothing is lost, duplicated or reordered. -/
theorem C14_fq_conservation_under_abandon (ops : List FQ.Op) (k : Nat) :
    FQ.deliveredOf (ops.foldl FQ.step {}) k <+: (ops.foldl FQ.step {}).hist k :=
  FQ.reachable_prefix ops k

/-- non-vacuity: a spurious poll from `parked` is a real transition of the model -/
example : (FQ.step { pc := .parked } .pollStart).pc = .a := rfl

/-- **Abandoned polls are just polls.**  One poll of ANY fair-queue `recv` future — freshly issued,
polled before, or the successor of a future that was dropped while `Pending` (they are all the same
value `.recv sid`, `C14_fq_recv_stateless`) — is a step of a receive history (`Step` + `RecvPost`).
So `C05_world_exactly_once` / `C05_world_gone_prefix`, which hold for EVERY history of such steps
and of arriving bytes, cover every way of abandoning `recv` calls at their suspension points:
nothing is lost, duplicated or reordered, and the connection's reader carries on exactly behind
what was consumed. -/
theorem C14_world_any_poll_is_a_history_step (w : World) (sid : Nat) (s : Socket) (hs : getSock w sid = some s)
    (hfq : hasFq s.typ = true) (hpd : PD s.fqStreams) (w' : World) (f' : FutSt) (o : POut)
    (h : pollFut w (.recv sid) = (w', f', o)) :
    ∃ s' c, getSock w' sid = some s' ∧ s'.typ = s.typ ∧ PD s'.fqStreams ∧
      Step w.pipes s.fqStreams w'.pipes s'.fqStreams c ∧ RecvPost s.typ c o := by
  simp only [pollFut] at h
  generalize hr : recvPoll (recvFuel w sid) w sid = r at h
  obtain ⟨w1, o1⟩ := r
  simp only [Prod.mk.injEq] at h
  obtain ⟨rfl, _, rfl⟩ := h
  exact recvPoll_spec _ w sid s hs hfq hpd w1 o1 hr

end Zmq.C14
