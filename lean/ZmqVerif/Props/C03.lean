import ZmqVerif.Lemmas.NoPanic
import ZmqVerif.Lemmas.WorldSendStart
import ZmqVerif.Lemmas.Retained
import ZmqVerif.Lemmas.Segment
import ZmqVerif.Lemmas.Compat
import ZmqVerif.Lemmas.Decode
/-!
# C03 — bytes from a peer can never crash the process or force unbounded allocation

The decoder model (`Model.Decoder`) is written with the abort conditions of the `bytes`
primitives it calls (`src[0]`, `get_u8`, `get_u32`, `get_u64`, `split_to`, slicing), so the
theorems below are statements about the *guards in the code*.  What the model cannot
exhibit — the real allocator, the real stack — is observed by the `hostile` correspondence
(child process, counting allocator, small-stack thread); see DESIGN.md §5 C03.
-/
namespace Zmq.C03
open Zmq

/-- No byte string, in any decoder state, makes `decode` reach a panic site. -/
theorem C03_decode_no_panic (d : Dec) (buf : Bytes) : (run d buf).panic = none :=
  run_no_panic d buf

/-- The command and greeting parsers are total on arbitrary bodies. -/
theorem C03_parsers_no_panic (body : Bytes) :
    (parseCommand body).isPanic = false ∧ (parseGreeting body).isPanic = false ∧
    (parseMechanism body).isPanic = false :=
  ⟨parseCommand_no_panic body, parseGreeting_no_panic body, parseMechanism_no_panic body⟩

/-- Whatever a peer sends from the first byte of the connection on, in whatever segmentation,
the connection's read side never panics: it yields items, waits, or fails with an error. -/
theorem C03_stream_no_panic (chunks : List Bytes) : (Conn.init.feedAll chunks).2.panic = none := by
  rw [Conn.feedAll_eq_feed _ Conn.init_quiescent]
  exact run_no_panic _ _

/-- Memory held for a connection's inbound side (read buffer + partially assembled message)
never exceeds the number of bytes actually received on it. -/
theorem C03_retained_linear (chunks : List Bytes) :
    (Conn.init.feedAll chunks).2.retained ≤ chunks.flatten.length := by
  rw [Conn.feedAll_eq_feed _ Conn.init_quiescent]
  simpa [Conn.init, Conn.retained, Dec.init, Dec.held] using Conn.feed_retained Conn.init chunks.flatten

/-- A declared frame length by itself reserves nothing: after a frame header announcing `n`
bytes (any `n`, up to 2^64-1) the connection holds at most the header's own 9 bytes. -/
theorem C03_declared_length_reserves_nothing (c : Conn) (more : Bool) (n : Nat) :
    (c.feed (frameHeader more n)).2.retained ≤ c.retained + 9 := by
  have := Conn.feed_retained c (frameHeader more n)
  have hl : (frameHeader more n).length ≤ 9 := by
    unfold frameHeader; split <;> simp [be_length]
  omega

/-- `SocketType::compatible` answers (does not panic) for every one of the 144 ordered pairs
of socket types — decided over the table REGENERATED from the real code on every run. -/
theorem C03_compat_total : ∀ a ∈ SockType.all, ∀ b ∈ SockType.all, compatible a b ≠ none :=
  fun a _ b _ => compatible_total a b

/-- non-vacuity: a header announcing 2^64-1 bytes is accepted by the model, which then simply
waits, holding nothing -/
example : decode Dec.framing [2, 255, 255, 255, 255, 255, 255, 255, 255]
    = .none ⟨.body ⟨false, true, false⟩ 18446744073709551615, []⟩ [] := by
  rw [Dec.framing, decode_header, decode_len_long _ (by decide) _ _ (by decide), decode.eq_1]
  decide

/-- **No frame count a peer can choose makes `RouterSocket::send` panic** (fix D19: `proxy()` hands this socket
whatever a peer of the other socket sent — a worker's single-frame message used to hit `assert!(message.len() > 1)`
and take the process down): for EVERY message the call ends as `Pending`, `Ok` or an error. -/
theorem C03_router_send_no_panic (w : Zmq.W.World) (sid : Nat) (m : Zmq.Msg) :
    (Zmq.W.routerSendStart w sid m).2.2 ≠ .ready .panic := by
  match m with
  | [] | [_] => simp [Zmq.W.routerSendStart]
  | t :: a :: r =>
    rw [Zmq.W.routerSendStart_cons w sid t (a :: r) nofun]
    split
    · nofun
    split
    · nofun
    split
    · nofun
    rename_i s hs
    split
    · have hsk := Zmq.W.sendStep_sock (.sendTo sid t · false)
        (fun s => if false then { s with current := some t } else s) t (.feeding (Zmq.encodeMsg (a :: r))) hs
      rw [← Zmq.W.sendToPoll_eq] at hsk
      rcases hsk with ⟨_, _, h, _⟩ | ⟨_, h, _⟩ | ⟨_, _, h, _⟩ | h <;> simp [h]
    · nofun

end Zmq.C03
