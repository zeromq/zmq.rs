import ZmqVerif.Lemmas.WorldMaps
import ZmqVerif.Lemmas.WorldSendStart
/-!
# C16 — a failed or closed peer is isolated, forgotten, and its connection released

On the functions `Model.World` runs when a socket observes the end of a connection:
`peerDisconnected` (what each backend's `peer_disconnected` does, as coded) and the
fair-queue poll `fqPoll`.  "Released" is read off the pipe's two `Drop` flags.

The code is right for read errors, truncated streams, protocol errors, orderly EOF (after fix
D12: the fair queue tells its owner when a stream ends — `C16_eof_forgets`) on every fair-queue
socket, for write errors in every sender (after fix D13: `C16_write_error_forgets`) and for REQ
(`C16_req_recv_forgets`).  PARTIAL: descriptor release is observed (pipe `Drop` flags), not modelled.
-/
namespace Zmq.C16
open Zmq Zmq.W

/-- **Forgotten**: once a socket has called `peer_disconnected(k)`, `k` is in no table a later
`send` consults (peer table) … -/
theorem C16_forgotten (ps : Pipes) (s : Socket) (k : Ident) :
    ilookup (peerDisconnected ps s k).2.peers k = none := by
  rw [peerDisconnected_eq]; exact ilookup_ierase_same _ _

/-- … and **isolated**: no other peer's table entry changes. -/
theorem C16_isolated (ps : Pipes) (s : Socket) (k j : Ident) (h : j ≠ k) :
    ilookup (peerDisconnected ps s k).2.peers j = ilookup s.peers j := by
  rw [peerDisconnected_eq]; exact ilookup_ierase_other _ _ _ h

/-- **Released (write half)**: the write half of the forgotten connection is dropped — for
every socket type. -/
theorem C16_released_write (ps : Pipes) (s : Socket) (k : Ident) (wr : Wr)
    (hp : ilookup s.peers k = some wr) :
    (getPipe (peerDisconnected ps s k).1 wr.pipe).wDropped = true := by
  have hW : (getPipe (dropW ps wr.pipe) wr.pipe).wDropped = true := by rw [dropW, getPipe_setPipe_same]
  have hR : ∀ q a, (getPipe (dropR q a) wr.pipe).wDropped = (getPipe q wr.pipe).wDropped :=
    fun q a => getPipe_setPipe_proj (·.wDropped) q a _ wr.pipe rfl
  rw [peerDisconnected_eq, hp]
  cases s.rdOf k with
  | none => exact hW
  | some rd => exact (hR _ _).trans hW

theorem peerDisconnected_none (ps : Pipes) (s : Socket) (k j : Ident) (h : ilookup s.peers j = none) :
    ilookup (peerDisconnected ps s k).2.peers j = none := by
  by_cases e : j = k
  · subst e; exact C16_forgotten ps s j
  · exact (C16_isolated ps s k j e).trans h

theorem fqPoll_peers_none (fuel : Nat) (ps : Pipes) (sid : Nat) (s : Socket) (j : Ident)
    (h : ilookup s.peers j = none) : ilookup (fqPoll fuel ps sid s).2.2.peers j = none :=
  fqPoll_sock_ind (P := fun s' => ilookup s'.peers j = none) (fun _ _ _ _ h => h)
    (fun _ _ _ h => peerDisconnected_none _ _ _ _ h) fuel ps sid s h

/-- **Orderly EOF forgets the peer** (after fix D12): when the fair-queue poll takes stream `k`
and the stream has ended, then — whatever else this poll goes on to do and whatever `recv`
returns — `k` is no longer in the peer table: no later send is routed to it … -/
theorem C16_eof_forgets (fuel : Nat) (ps : Pipes) (sid : Nat) (s : Socket) (t : Nat) (k : Ident)
    (rest : List (Nat × Ident)) (rd : Rd)
    (hpop : popMinE s.fqHeap = some ((t, k), rest)) (hst : ilookup s.fqStreams k = some rd)
    (heof : (readerPoll (readFuel ps rd) ps rd (.fq sid t k)).1 = .eof) :
    ilookup (fqPoll (fuel + 1) ps sid s).2.2.peers k = none := by
  unfold fqPoll
  simp only [hpop, hst]
  generalize readerPoll (readFuel ps rd) ps rd (.fq sid t k) = rp at heof
  obtain ⟨r, ps', rd'⟩ := rp
  obtain rfl : r = .eof := heof
  exact fqPoll_peers_none _ _ _ _ _ (C16_forgotten _ _ _)

/-- … and its write half has been dropped; the read half was dropped just before, when the queue did
not put the stream back (the second conjunct speaks of the pipes `peer_disconnected` is called on). -/
theorem C16_eof_releases (ps : Pipes) (s : Socket) (k : Ident) (rd : Rd) (wr : Wr)
    (hp : ilookup s.peers k = some wr) :
    let r := peerDisconnected (dropR ps rd.pipe) s k
    (getPipe r.1 wr.pipe).wDropped = true ∧ (getPipe (dropR ps rd.pipe) rd.pipe).rDropped = true := by
  refine ⟨C16_released_write _ _ _ _ hp, ?_⟩
  simp [dropR, getPipe_setPipe_same]

/-- **A failed write forgets the peer** (REQ / ROUTER / REP, after fix D13): when the write
through `sendToPoll` fails, the error is returned and the peer is no longer in the peer table —
no later send is routed to it. -/
theorem C16_write_error_forgets (w : World) (sid : Nat) (k : Ident) (st : SendSt) (b : Bool)
    (w' : World) (f : FutSt) (h : sendToPoll w sid k st b = (w', f, .ready (.err .io))) :
    ∃ s', getSock w' sid = some s' ∧ ilookup s'.peers k = none := by
  cases hs : getSock w sid with
  | none => simp [sendToPoll, hs] at h
  | some s =>
    have hsk := sendStep_sock (.sendTo sid k · b) (fun s => if b then { s with current := some k } else s) k st hs
    rw [← sendToPoll_eq, h] at hsk
    rcases hsk with ⟨_, _, he, _⟩ | ⟨_, he, _⟩ | ⟨_, _, _, hg⟩ | he
    · cases he
    · cases he
    · exact ⟨_, hg, C16_forgotten _ _ _⟩
    · cases he

/-- **REQ forgets a server whose connection ended or failed** (after fix D13): when the awaited
reply turns out to be an end of stream or a stream error, the peer is gone from the table and the
request marker is cleared. -/
theorem C16_req_recv_forgets (w : World) (sid : Nat) (s : Socket) (k : Ident) (rd : Rd)
    (hs : getSock w sid = some s) (hc : s.current = some k) (hrd : ilookup s.reqRd k = some rd)
    (hend : (readerPoll (readFuel w.pipes rd) w.pipes rd .user).1 = .eof ∨
            ∃ e, (readerPoll (readFuel w.pipes rd) w.pipes rd .user).1 = .err e) :
    ∃ s', getSock (reqRecvPoll w sid).1 sid = some s' ∧ ilookup s'.peers k = none ∧ s'.current = none := by
  unfold reqRecvPoll
  simp only [hs, hc, hrd]
  generalize readerPoll (readFuel w.pipes rd) w.pipes rd .user = rp at hend
  obtain ⟨r, ps, rd'⟩ := rp
  -- both outcomes end in `peerDisconnected _ { s with reqRd := _, current := none } k`, which keeps `current`
  rcases hend with rfl | ⟨e, rfl⟩ <;>
    exact ⟨_, getSock_setSock_same _ _ _, C16_forgotten _ _ _, by rw [peerDisconnected_eq]⟩

/-- non-vacuity: disconnecting one of two PULL peers keeps the other and drops both halves -/
example :
    let s : Socket := { typ := .pull, peers := [([1], ⟨1, []⟩), ([2], ⟨2, []⟩)], fqStreams := [([1], { pipe := 1 })] }
    let r := peerDisconnected [] s [1]
    r.2.peers.map (·.1) = [[2]] ∧ (getPipe r.1 1).wDropped = true ∧ (getPipe r.1 1).rDropped = true := by
  decide

/-- **Round-robin senders (PUSH, DEALER).**  A connection whose pipe belongs to NO registered peer (its peer has been
forgotten: `C16_forgotten`) is not written to by a send, whatever is still in the rotation queue: the peer chosen is a
REGISTERED one (`C10_world_rr_choice`), and only its pipe is touched. -/
theorem C16_world_rr_skips_forgotten (fuel : Nat) (w : World) (sid : Nat) (m : Msg) (s : Socket) (hs : getSock w sid = some s)
    (p : Nat) (hp : ∀ k wr, ilookup s.peers k = some wr → wr.pipe ≠ p)
    (w' : World) (f' : FutSt) (o : POut) (h : sendRRPoll fuel w sid m none = (w', f', o))
    (ho : o = .pending ∨ o = .ready .okUnit ∨ ∃ m', o = .ready (.errReturn m')) :
    wOf w'.pipes p = wOf w.pipes p := by
  -- the poll is the walk to the first registered entry `k`, then one `sendStep` to it, which touches `k`'s pipe only
  rcases sendRRPoll_none fuel w sid m s hs with ⟨k, rest, w0, hfl, hps, hs0, he⟩ | ⟨w0, hps, _, he⟩ | ⟨w0, he⟩
  · obtain ⟨wr, hk⟩ := hfl.peer
    rw [← hps]
    exact sendStep_start hs0 hk (he.symm.trans h) fun hfr =>
      have := hfr p fun e => hp k wr hk e.symm
      ⟨fun _ _ => this, fun _ => this, this⟩
  · cases h.symm.trans he
    rw [hps]
  · cases h.symm.trans he
    rcases ho with ho | ho | ⟨_, ho⟩ <;> cases ho

/-- **ROUTER.**  A message addressed to an identity that is not (or no longer) registered is refused with an error and
NOTHING is written to any connection — in particular not to the connection that identity once had. -/
theorem C16_world_router_skips_forgotten (w : World) (sid : Nat) (t : Bytes) (rest : Msg) (hne : rest ≠ []) (s : Socket)
    (hs : getSock w sid = some s) (hgone : ilookup s.peers t = none)
    (w' : World) (f' : FutSt) (o : POut) (h : routerSendStart w sid (t :: rest) = (w', f', o)) :
    (∃ e, o = .ready (.err e)) ∧ ∀ j, wOf w'.pipes j = wOf w.pipes j := by
  rcases routerSendStart_unknown w sid s t rest hs hne hgone with e | e <;>
    (cases e.symm.trans h; exact ⟨⟨_, rfl⟩, fun _ => rfl⟩)

end Zmq.C16
