import ZmqVerif.Lemmas.Sockets
import ZmqVerif.Lemmas.Fold
import ZmqVerif.Lemmas.WorldResub
import ZmqVerif.Lemmas.WorldSubOp
/-!
# C13 — a SUB socket's subscriptions reach every peer, including late joiners

Pure model of what a SUB socket tells its peers, built from the functions `Model.World`
runs (`subAdd`, `subDel`, `subsMsg`) and read back with the publisher's semantics of C11
(`onMsg`): `told w t` = how many active subscriptions for `t` a publisher holds after
processing the subscription messages `w` it was sent.

Joins are modelled both **atomic** (`join`) and **split** (`joinSnapshot` … `joinRegister`):
the real `peer_connected` reads the subscription set, then sends, then registers the peer,
and a `subscribe` can land in between (when the new connection stalls, or on another
thread).  The atomic theorem is proved; for the split join the negation is proved on a
concrete history (`C13_race_witness`) — a recorded finding, see DESIGN.md §6 D10.
-/
namespace Zmq.C13
open Zmq

structure St where
  /-- the socket's subscription set (duplicate-free list) -/
  subs : List Bytes := []
  /-- per registered peer: the subscription messages written to it, in order -/
  wires : List (List Msg) := []

def subscribe (s : St) (t : Bytes) : St :=
  let (subs, changed) := subAdd s.subs t
  if changed then { subs := subs, wires := s.wires.map (· ++ [subsMsg true t]) } else s

def unsubscribe (s : St) (t : Bytes) : St :=
  let (subs, changed) := subDel s.subs t
  if changed then { subs := subs, wires := s.wires.map (· ++ [subsMsg false t]) } else s

/-- atomic join: the new peer is told the current set and registered in one step -/
def join (s : St) : St := { s with wires := s.wires ++ [s.subs.map (subsMsg true)] }

/-- what a publisher concludes from the messages it was sent -/
def told (w : List Msg) (t : Bytes) : Nat := (w.foldl onMsg []).count t

inductive Op | sub (t : Bytes) | unsub (t : Bytes) | join

def step (s : St) : Op → St
  | .sub t => subscribe s t
  | .unsub t => unsubscribe s t
  | .join => join s

/-- every peer has been told exactly the current set -/
def Agrees (s : St) : Prop :=
  s.subs.Nodup ∧ ∀ w ∈ s.wires, w.foldl onMsg [] = s.subs

theorem step_agrees (s : St) (op : Op) (h : Agrees s) : Agrees (step s op) := by
  obtain ⟨hnd, hw⟩ := h
  -- `onMsg s.subs (subsMsg true t)` is `s.subs ++ [t]` and `onMsg s.subs (subsMsg false t)` is `s.subs.erase t` by
  -- computation
  have tell : ∀ m, ∀ w ∈ s.wires.map (· ++ [m]), w.foldl onMsg [] = onMsg s.subs m := by
    intro m w hw'
    obtain ⟨w0, hw0, rfl⟩ := List.mem_map.1 hw'
    rw [List.foldl_append, hw w0 hw0]; rfl
  cases op with
  | sub t =>
    simp only [step, subscribe, subAdd]
    split
    · exact ⟨hnd, hw⟩
    · rename_i hm
      refine ⟨List.nodup_append.2 ⟨hnd, by simp, fun a ha b hb e => ?_⟩, tell _⟩
      rw [List.mem_singleton.1 hb] at e
      exact hm (e ▸ ha)
  | unsub t =>
    simp only [step, unsubscribe, subDel]
    split
    · exact ⟨hnd.erase t, tell _⟩
    · exact ⟨hnd, hw⟩
  | join =>
    refine ⟨hnd, fun w hw' => ?_⟩
    rcases List.mem_append.1 hw' with h1 | h1
    · exact hw w h1
    · rw [List.mem_singleton.1 h1]; exact foldl_onMsg_subsMsg s.subs []

/-- **Invariant (atomic joins)**: after ANY history of subscribe / unsubscribe (repeated,
never-subscribed topics included) and joins at any point, every peer — early or late — has
been told exactly the current subscription set, and all peers agree. -/
theorem C13_inv_atomic (ops : List Op) : Agrees (ops.foldl step {}) :=
  List.foldl_inv step_agrees ops ⟨List.nodup_nil, by simp⟩

/-- … in the terms of the statement: a topic is subscribed at a peer iff it is in the set. -/
theorem C13_told_iff (ops : List Op) (w : List Msg) (hw : w ∈ (ops.foldl step {}).wires) (t : Bytes) :
    told w t > 0 ↔ t ∈ (ops.foldl step {}).subs := by
  obtain ⟨_, h⟩ := C13_inv_atomic ops
  simp [told, h w hw, List.count_pos_iff]

/-- A failing peer is simply one wire that is not extended: the update of every other peer is
computed independently of it (`List.map`), so it cannot prevent them from being updated. -/
theorem C13_failure_isolated (s : St) (t : Bytes) (hn : t ∉ s.subs) (i : Nat) (w : List Msg)
    (hw : s.wires[i]? = some w) : (subscribe s t).wires[i]? = some (w ++ [subsMsg true t]) := by
  simp [subscribe, subAdd, hn, hw]

/-- first half: read the subscription set -/
def joinSnapshot (s : St) : List Bytes := s.subs
/-- second half: tell the new peer the SNAPSHOT and register it -/
def joinRegister (s : St) (snap : List Bytes) : St :=
  { s with wires := s.wires ++ [snap.map (subsMsg true)] }

/-- **Race witness**: `subscribe a; snapshot; subscribe b; register` — the late joiner was never
told `b` although `b` is in the socket's subscription set.  The full property (which also
quantifies over joins concurrent with the call) is FALSE of the code; recorded as a finding. -/
theorem C13_race_witness :
    let s1 := subscribe {} [97]
    let snap := joinSnapshot s1
    let s2 := subscribe s1 [98]
    let s3 := joinRegister s2 snap
    [98] ∈ s3.subs ∧ ∃ w ∈ s3.wires, told w [98] = 0 := by decide

/-- **Partial**: the invariant holds for all histories in which no subscribe/unsubscribe lands
inside a join window — i.e. the register half uses an up-to-date snapshot. -/
theorem C13_inv_partial (s : St) (h : Agrees s) : Agrees (joinRegister s (joinSnapshot s)) :=
  step_agrees s .join h

/-- non-vacuity: `sub a; sub a; unsub a` with an early peer leaves nobody subscribed -/
example : (([Op.join, .sub [97], .sub [97], .unsub [97], .join].foldl step {}).wires.map
    (fun w => told w [97])) = [0, 0] := by decide

open Zmq.W in
/-- **One poll of `subscribe` / `unsubscribe`, seen from ONE registered peer** (`SubInv`: beyond `base` the peer's
connection has been handed nothing while it is still to be told, what the `send` in progress has handed over while it
is being told, and — once it has been dealt with — the COMPLETE announcement unless a write failed).  Kept by every
poll, however many peers the call gets through in it and whatever the OTHER peers' connections do (back-pressure,
write errors, peers that vanished); when the call completes without error, this peer's outgoing stream is `base`
followed by the complete announcement — exactly once, whole.  Needs only that the peer shares its connection with no
other peer and that the table's keys are distinct (`C13_world_subop_start`). -/
theorem C13_world_subop_poll (fuel : Nat) (w : World) (sid : Nat) (isSub : Bool) (topic : Bytes) (k : Ident) (p : Nat) (base : Bytes)
    (todo : List Ident) (cur : Option (Ident × SendSt)) (failed : Bool)
    (hinv : SubInv w sid k p base (encodeMsg (subsMsg isSub topic)) todo cur failed)
    (w' : World) (f' : FutSt) (o : POut)
    (h : subOpPoll fuel w sid isSub topic true todo cur failed = (w', f', o)) :
    match (generalizing := false) f', o with
    | .subOp _ _ _ _ todo' cur' failed', .pending =>
        SubInv w' sid k p base (encodeMsg (subsMsg isSub topic)) todo' cur' failed'
    | _, .ready .okUnit => ∃ s' wr', getSock w' sid = some s' ∧ ilookup s'.peers k = some wr' ∧ wr'.pipe = p ∧
        outOf w'.pipes wr' = base ++ encodeMsg (subsMsg isSub topic)
    | _, .ready (.err _) => True
    | _, _ => False :=
  subOpPoll_spec fuel w sid isSub topic k p base todo cur failed hinv w' f' o h

open Zmq.W in
/-- the invariant holds when the walk starts (the set has just changed): every registered peer is still to be told -/
theorem C13_world_subop_start (w : World) (sid : Nat) (s : Socket) (k : Ident) (wr : Wr) (enc : Bytes) (subs' : List Bytes)
    (hk : ilookup s.peers k = some wr)
    (hdist : ∀ j wr2, j ≠ k → ilookup s.peers j = some wr2 → wr2.pipe ≠ wr.pipe)
    (hnd : (s.peers.map (·.1)).Nodup) :
    SubInv (setSock w sid { s with subs := subs' }) sid k wr.pipe (outOf w.pipes wr) enc (s.peers.map (·.1)) none false :=
  SubInv.start w sid s k wr enc subs' hk hdist hnd

open Zmq.W in
/-- **"Peers that connect or are accepted afterwards receive all subscriptions active at that time."**  The last stage of
a SUB socket's handshake future announces the snapshot `todo` of the subscription set to the new connection — a full
`send` per topic, resumable under any back-pressure — and only then registers the peer.  For EVERY poll of that stage:
`Pending` keeps the books (what is owed beyond the new base is what was owed minus what has been handed over: nothing
skipped, nothing repeated); completion is `Ok(ident)` (an error if the socket is no longer there) and either the socket
is untouched (the connection failed during the announcement or the socket is gone: the joiner is dropped UNREGISTERED —
it can never be a peer that was told only part of the set) or the joiner is registered under `ident` with an empty write
buffer and its connection carries `base` followed by one announcement per topic of the snapshot, in order, each whole,
each once.  (What this does NOT give is atomicity against a subscribe/unsubscribe that runs between snapshot and
registration: finding D10, `C13_race_witness`.) -/
theorem C13_world_late_joiner (fuel : Nat) (w : World) (sid pid : Nat) (ident : Ident) (todo : List Bytes)
    (cur : Option SendSt) (rd : Rd) (wr : Wr) (base enc : Bytes) (hat : ResubAt w.pipes wr base enc cur)
    (w' : World) (f' : FutSt) (o : POut)
    (h : attachPoll fuel w sid pid (.resub ident todo cur) rd wr = (w', f', o)) :
    (o = .pending → ∃ todo' cur' wr' base' enc', f' = .attach sid pid (.resub ident todo' cur') rd wr' ∧
        wr'.pipe = wr.pipe ∧ ResubAt w'.pipes wr' base' enc' cur' ∧
        base' ++ owed enc' cur' todo' = base ++ owed enc cur todo) ∧
    (∀ v, o = .ready v → (v = .okId ident ∨ ∃ e, v = .err e) ∧
        (getSock w' sid = getSock w sid ∨
         ∃ s' wr', getSock w' sid = some s' ∧ ilookup s'.peers ident = some wr' ∧ wr'.pipe = wr.pipe ∧ wr'.buf = [] ∧
           (wOf w'.pipes wr.pipe).wire = base ++ owed enc cur todo)) :=
  attachPoll_resub_spec fuel w sid pid ident todo cur rd wr base enc hat w' f' o h

open Zmq.W in
/-- non-vacuity: at the start of the stage (nothing in progress, the READY flushed) the premise is just "the outgoing
stream is `base`", and what is owed is one announcement per topic -/
example (ps : Pipes) (wr : Wr) (hb : wr.buf = []) :
    ResubAt ps wr (outOf ps wr) [] none ∧ owed [] none [[97], [98]] = encodeMsg (subsMsg true [97]) ++ encodeMsg (subsMsg true [98]) := by
  refine ⟨⟨hb, rfl⟩, ?_⟩
  simp [owed]

open Zmq.W in
/-- **A peer that connects AFTERWARDS is told all subscriptions active at that time — end to end.**  A SUB socket (alive)
starts the handshake on a connection that takes every write at once, and the connection's byte stream begins with an
acceptable greeting and a READY admitted under `ident`.  Then ONE poll of the handshake future completes with
`Ok(ident)`, the peer is registered with an empty write buffer, and what its connection carries is exactly: the
socket's greeting, its READY, and ONE announcement per subscription in the socket's set at that moment, in order. -/
theorem C13_world_joiner_told_all (n : Nat) (w : World) (sid pid : Nat) (rd : Rd) (wr : Wr) (s : Socket) (encG : Bytes)
    (hs : getSock w sid = some s) (hsub : s.typ = .sub) (halive : s.dead = false)
    (hb : wr.buf = []) (hfree : Free w.pipes wr.pipe)
    (g : Greeting) (props : List (Bytes × Bytes)) (rest : List Item)
    (hitems : rd.items w.pipes = .greeting g :: .command props :: rest) (hv : vOk g)
    (ident : Ident) (fresh' : Nat) (hadm : admitPeer s.typ props w.fresh = .ok (ident, fresh')) :
    ∃ w' s' wr', attachPoll (n + 2 * s.subs.length + 5) w sid pid (.sendGreeting (.feeding encG)) rd wr
        = (w', .done, .ready (.okId ident)) ∧
      getSock w' sid = some s' ∧ ilookup s'.peers ident = some wr' ∧ wr'.pipe = wr.pipe ∧ wr'.buf = [] ∧
      (wOf w'.pipes wr.pipe).wire =
        (wOf w.pipes wr.pipe).wire ++ encG ++ encodeReady s.typ s.ident false ++ annc s.subs :=
  attachPoll_completes_sub n w sid pid rd wr s encG hs hsub halive hb hfree g props rest hitems hv ident fresh' hadm

end Zmq.C13
