import ZmqVerif.Lemmas.Rfc
import ZmqVerif.Lemmas.WorldRotation
import ZmqVerif.Lemmas.Decode
import ZmqVerif.Gen.Tables
import ZmqVerif.Lemmas.Command
/-!
# C01 — message framing conforms to ZMTP 3.0 and round-trips exactly

Property theorems only.  `encodeMsg`/`encodeGreeting`/`encodeReady` mirror what the
library writes (`Model.Wire`); `Rfc.*` is the independent RFC 23 grammar
(`Spec.Rfc23`); `decode`/`run` is the library's decoder (`Model.Decoder`).
The hypothesis `f.length < 2^64` is the width of the size field; every in-memory
buffer satisfies it.
-/
namespace Zmq.C01
open Zmq Rfc

/-- An independent RFC-23 decoder parses the bytes of any message back to exactly its
frames — MORE on every frame but the last, nothing extra, nothing missing. -/
theorem C01_rfc_roundtrip (fs : List Bytes) (h64 : ∀ f ∈ fs, f.length < 2 ^ 64) :
    parseFrames (encodeMsg fs) = some (tagMore fs) := by
  simpa [parseFrames_nil] using parseFrames_encodeMsg_append fs h64 []

/-- … and the frames regroup into exactly that one message. -/
theorem C01_rfc_regroup (fs : List Bytes) (hne : fs ≠ []) :
    groupMsgs (tagMore fs) [] = some [fs] := by
  suffices h : ∀ acc, groupMsgs (tagMore fs) acc = some [acc ++ fs] by simpa using h []
  induction fs with
  | nil => exact absurd rfl hne
  | cons f fs ih =>
    intro acc
    cases fs with
    | nil => simp [tagMore, groupMsgs]
    | cons g gs =>
      simp only [tagMore, groupMsgs]
      simp [ih (by simp) (acc ++ [f])]

/-- A sequence of messages on one connection parses to the concatenation of their frames. -/
theorem C01_rfc_stream (ms : List (List Bytes)) (h64 : ∀ m ∈ ms, ∀ f ∈ m, f.length < 2 ^ 64) :
    parseFrames (ms.map encodeMsg).flatten = some (ms.map tagMore).flatten := by
  induction ms with
  | nil => exact parseFrames_nil
  | cons m ms ih =>
    simp only [List.map_cons, List.flatten_cons]
    rw [parseFrames_encodeMsg_append m (h64 m (by simp)), ih (fun m' hm => h64 m' (by simp [hm]))]
    simp

/-- Size width: one-byte size only for bodies of at most 255 bytes (2-byte header, LONG
clear), eight-byte network-order size otherwise (9-byte header, LONG set); MORE is bit 0. -/
theorem C01_size_width (more : Bool) (n : Nat) :
    (n ≤ 255 → frameHeader more n = [if more then 1 else 0, UInt8.ofNat n]) ∧
    (255 < n → frameHeader more n = (if more then 3 else 2) :: be 8 n ∧
               (frameHeader more n).length = 9) := by
  constructor
  · intro h; simp [frameHeader]; omega
  · intro h; simp [frameHeader, h]

/-- No extra or missing bytes: the encoding is exactly header + body per frame. -/
theorem C01_exact_length (more : Bool) (body : Bytes) :
    (encodeFrame more body).length = body.length + (if body.length > 255 then 9 else 2) := by
  simp only [encodeFrame, frameHeader]
  split <;> simp <;> omega

/-- Decoding the bytes of a message with the library's decoder yields the identical message
and consumes exactly those bytes. -/
theorem C01_lib_roundtrip (fs : List Bytes) (hne : fs ≠ []) (h64 : ∀ f ∈ fs, f.length < 2 ^ 64) :
    run Dec.framing (encodeMsg fs) = ⟨[.message fs], none, none, Dec.framing, []⟩ := by
  have h := decode_encodeMsg fs hne h64 [] []
  simp only [List.append_nil, List.nil_append] at h
  rw [Dec.framing, run_item h, run_stuck _ _ (by decide)]

/-- … and a whole stream of messages decodes to those messages, in order. -/
theorem C01_lib_roundtrip_stream (ms : List (List Bytes)) (hne : ∀ m ∈ ms, m ≠ [])
    (h64 : ∀ m ∈ ms, ∀ f ∈ m, f.length < 2 ^ 64) :
    run Dec.framing (ms.map encodeMsg).flatten
      = ⟨ms.map Item.message, none, none, Dec.framing, []⟩ :=
  run_encodeMsgs ms hne h64

/-- The greeting: 64 bytes, signature, version, NUL-padded mechanism, zero filler — and the
library's own greeting parser reads it back. -/
theorem C01_greeting (g : Greeting) :
    (encodeGreeting g).length = 64 ∧
    validGreeting (encodeGreeting g) g.major g.minor g.mech.name g.asServer = true ∧
    parseGreeting (encodeGreeting g) = .ok g := by
  obtain ⟨maj, min, mech, srv⟩ := g
  have hs : ((if srv = true then (1 : UInt8) else 0) == 1) = srv := by cases srv <;> rfl
  cases mech <;>
    simp [encodeGreeting, validGreeting, parseGreeting, Mechanism.name, zeros, index,
      parseMechanism, List.replicate, bind, Out.bind, hs] <;> decide

/-- The greeting the library actually emits (regenerated from the code on every run)
is the model's default greeting: version 3.0, NULL, not a server. -/
theorem C01_greeting_gen : encodeGreeting Greeting.default = Gen.greetingBytes := by rfl

/-- READY as the library actually emits it for every implemented socket type with no
identity configured (regenerated on every run) equals the model's encoding. -/
theorem C01_ready_gen :
    Gen.readyBytes = ([SockType.pub, .sub, .req, .rep, .dealer, .router, .pull, .push, .xpub].map
      fun t => (t.toNat, encodeReady t none false)) := by rfl

/-- READY, for EVERY socket type and EVERY identity the wire format can carry (shorter than 2^32
octets — the library itself refuses more than 255), in either property order: the command body the
encoder writes parses under the independent RFC-23 grammar of a command body to the name `READY`
and exactly the properties Socket-Type = the type's name and (when configured) Identity = the
identity … -/
theorem C01_ready_rfc (t : SockType) (ident : Option Bytes) (idFirst : Bool)
    (hid : ∀ i, ident = some i → i.length < 2 ^ 32) :
    Rfc.parseCommandBody (commandBody kReady (readyProps t ident idFirst)) =
      some (kReady, readyProps t ident idFirst) :=
  rfc_commandBody kReady _ (by decide) (by decide) (readyProps_ok t ident idFirst hid)

/-- … and the library's own command parser reads it back as exactly those properties (the two
property names are valid UTF-8: hypothesis `hu` — `validateUTF8` does not reduce in the kernel;
the correspondence run evaluates it). -/
theorem C01_ready_lib (t : SockType) (ident : Option Bytes) (idFirst : Bool)
    (hid : ∀ i, ident = some i → i.length < 2 ^ 32)
    (hu : validUtf8 kSocketType = true ∧ validUtf8 kIdentity = true) :
    parseCommand (commandBody kReady (readyProps t ident idFirst)) = .ok (readyProps t ident idFirst) :=
  lib_readyBody _ (readyProps_ok t ident idFirst hid) fun p hp => by
    rcases mem_readyProps hp with rfl | ⟨i, -, rfl⟩
    · exact hu.1
    · exact hu.2


open Zmq.W in
/-- **What a socket WRITES for a message conforms.**  A round-robin send (PUSH, DEALER) that completes has extended the
outgoing byte stream of exactly one connection by `enc`, and `enc` read by the strict RFC-23 frame grammar is exactly the
frames of the message, MORE set on all but the last — no extra bytes, nothing on any other connection.  (The same `enc`
= `encodeMsg …` appears in `C07_world_req_send`, `C08_world_rep_send`, `C09_world_router_send`, `C12_world_publish_subscriber`
for the other socket types, behind their envelope rules.) -/
theorem C01_world_sent_bytes_conform (fuel : Nat) (w : World) (sid : Nat) (m : Msg) (s : Socket) (hs : getSock w sid = some s)
    (h64 : ∀ f ∈ m, f.length < 2 ^ 64)
    (w' : World) (f' : FutSt) (h : sendRRPoll fuel w sid m none = (w', f', .ready .okUnit)) :
    ∃ k wr enc, ilookup s.peers k = some wr ∧ (wOf w'.pipes wr.pipe).wire = outOf w.pipes wr ++ enc ∧
      parseFrames enc = some (tagMore m) ∧ ∀ j, j ≠ wr.pipe → wOf w'.pipes j = wOf w.pipes j := by
  obtain ⟨k, _, wr, _, h4, h5, h6, _⟩ := sendRRStart_done_who fuel w sid m s hs w' f' h
  exact ⟨k, wr, encodeMsg m, h4, h5, C01_rfc_roundtrip m h64, h6⟩

end Zmq.C01
