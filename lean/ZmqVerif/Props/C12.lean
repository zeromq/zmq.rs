import ZmqVerif.Lemmas.WorldMaps
import ZmqVerif.Lemmas.SinkStream
import ZmqVerif.Lemmas.WorldPubFan
/-!
# C12 — a slow subscriber never blocks the publisher or corrupts its own stream

`trySend`, `pollReady`, `flushBuf` (`Model.Sink`) are what `Model.World.pubSend` runs per
matching subscriber.  `trySend` is a total function of the pipe state — it cannot wait by
construction; that the real `send` completes in a single poll whatever the pipes do is checked
on the code by the correspondence.  PARTIAL: asynchronous-codec's `FramedWrite2` is modelled
(and exercised for real by the harness), not verified.
-/
namespace Zmq.C12
open Zmq Zmq.W

theorem flushBuf_stream (p : WPipe) (buf : Bytes) :
    (flushBuf p buf).1.wire ++ (flushBuf p buf).2.1 = p.wire ++ buf := Sink.flushBuf_stream p buf

theorem pollReady_stream (hwm : Nat) (p : WPipe) (buf : Bytes) :
    (pollReady hwm p buf).1.wire ++ (pollReady hwm p buf).2.1 = p.wire ++ buf := Sink.pollReady_stream hwm p buf

/-- **Stream**: whatever the pipe does, after `try_send` the bytes on the wire followed by the
bytes still buffered are the previous ones followed by the WHOLE encoding of the message if
it was accepted, and by nothing if it was dropped — never half a message, never reordered. -/
theorem C12_stream (hwm : Nat) (p : WPipe) (buf enc : Bytes) :
    (trySend hwm p buf enc).1.wire ++ (trySend hwm p buf enc).2.1
      = p.wire ++ buf ++ (if (trySend hwm p buf enc).2.2 = .ok then enc else []) := Sink.trySend_stream hwm p buf enc

theorem flushBuf_len (p : WPipe) (buf : Bytes) : (flushBuf p buf).2.1.length ≤ buf.length := by
  fun_cases flushBuf p buf <;> simp

theorem pollReady_len (hwm : Nat) (p : WPipe) (buf : Bytes) :
    (pollReady hwm p buf).2.1.length ≤ buf.length := by
  fun_cases pollReady hwm p buf <;> simp +zetaDelta

theorem pollReady_done_below (hwm : Nat) (p : WPipe) (buf : Bytes) (p1 : WPipe) (b1 : Bytes)
    (h : pollReady hwm p buf = (p1, b1, .done)) (hpos : 0 < hwm) : b1.length < hwm := by
  suffices (pollReady hwm p buf).2.2 = .done → (pollReady hwm p buf).2.1.length < hwm by simpa [h] using this
  fun_cases pollReady hwm p buf
  · exact fun _ => ‹_›
  · nofun
  · exact fun _ => hpos
  · exact fun _ => ‹_›
  · nofun

/-- **Bounded**: memory held for one subscriber stays below the high-water mark plus one
message, for every back-pressure pattern. -/
theorem C12_bounded (hwm B : Nat) (hpos : 0 < hwm) (p : WPipe) (buf enc : Bytes)
    (hb : buf.length < hwm + B) (henc : enc.length ≤ B) :
    (trySend hwm p buf enc).2.1.length < hwm + B := by
  have hl := pollReady_len hwm p buf
  fun_cases trySend hwm p buf enc
  · next hq => rw [hq] at hl; exact Nat.lt_of_le_of_lt hl hb
  · next hq => rw [hq] at hl; exact Nat.lt_of_le_of_lt hl hb
  · next p1 b1 hq _ _ _ hf =>
    have h3 := pollReady_done_below hwm p buf p1 b1 hq hpos
    have h2 := flushBuf_len p1 (b1 ++ enc)
    rw [hf, List.length_append] at h2
    exact Nat.lt_of_le_of_lt h2 (by omega)

/-- **No loss**: a subscriber whose connection accepts every write misses nothing and holds
nothing back. -/
theorem C12_no_loss (hwm : Nat) (hpos : 0 < hwm) (p : WPipe) (enc : Bytes)
    (hc : p.credit = none) (he : p.wrerr = false) :
    trySend hwm p [] enc = ({ p with wire := p.wire ++ enc }, [], .ok) := by
  simp [trySend, pollReady, hpos, Sink.flushBuf_free p enc hc he]

/-- **Resume**: after a stall, new credit continues the stream exactly where it stopped. -/
theorem C12_resume (p : WPipe) (buf : Bytes) (c : Nat) :
    let p' := { p with credit := some c }
    (flushBuf p' buf).1.wire ++ (flushBuf p' buf).2.1 = p.wire ++ buf :=
  flushBuf_stream _ _

/-- **Independent**: publishing to one subscriber touches no other subscriber's pipe. -/
theorem C12_independent (ps : Pipes) (wr : Wr) (enc : Bytes) (j : Nat) (hj : j ≠ wr.pipe) :
    getPipe (wrTrySend ps wr enc).1 j = getPipe ps j :=
  wrTrySend_frame ps wr enc j hj

/-- **Dropped whole**: when the buffer is at the mark and the pipe is stalled, the message is
dropped (`BufferFull`) and neither wire nor buffer changes. -/
theorem C12_drop_whole (hwm : Nat) (p : WPipe) (buf enc : Bytes)
    (hfull : hwm ≤ buf.length) (hstall : p.credit = some 0) (he : p.wrerr = false) :
    trySend hwm p buf enc = (p, buf, .bufferFull) := by
  have : pollReady hwm p buf = (p, buf, .pending) := by
    unfold pollReady
    have h1 : ¬ buf.length < hwm := by omega
    simp [h1, he, hstall]
    cases p; simp_all
  simp [trySend, this]

example : trySend 4 { credit := some 0 } [1, 2, 3, 4] [9, 9] = ({ credit := some 0 }, [1, 2, 3, 4], .bufferFull) := by
  decide
example : trySend 4 { credit := some 3 } [1, 2] [9, 9] = ({ wire := [1, 2, 9], credit := some 0 }, [9], .ok) := by
  decide

/-- **Publishing never waits** (socket level): in the World model a `send` on a PUB socket completes
in its FIRST poll whatever the state of every subscriber's connection — stalled, full, broken —
and whatever the message: the result is never `Pending`. -/
theorem C12_publish_never_waits (w : World) (sid : Nat) (m : Msg) :
    (pubSend w sid m).2 ≠ .pending := by
  unfold pubSend
  split
  · simp
  · simp

/-- **One publish as the subscriber's connection sees it.**  `pubSend` is the loop `pubStep` over the subscriber table
followed by forgetting the subscribers whose pipe is broken (`pubSend_fold`, by `rfl`); that last phase changes no
connection's write side (`pubSend_wOf`).  For a subscriber `(k, wr)` at ANY position of the table whose connection is
shared with no other subscriber: after the loop it is still in the table, on the same connection, and its outgoing
stream (wire ++ write buffer) is the old one followed by the WHOLE encoding — iff one of its subscriptions is a prefix
of the topic (C11) AND `try_send` accepted the message (not at the high-water mark, no write error) — or by nothing at
all: never a part, never twice, whatever the OTHER subscribers do (stalled, full, broken).  Hence, by induction over
the publishes, what reaches a subscriber is a concatenation of complete encodings of an order-preserving subsequence of
the matching messages. -/
theorem C12_world_publish_subscriber (s : Socket) (topic enc : Bytes) (pre post : List (Ident × Wr)) (k : Ident) (wr : Wr)
    (acc : Pipes × List (Ident × Wr) × List Ident)
    (hpre : ∀ e ∈ pre, e.2.pipe ≠ wr.pipe) (hpost : ∀ e ∈ post, e.2.pipe ≠ wr.pipe) :
    let r := (pre ++ (k, wr) :: post).foldl (pubStep s topic enc) acc
    ∃ wr', (k, wr') ∈ r.2.1 ∧ wr'.pipe = wr.pipe ∧
      outOf r.1 wr' = outOf acc.1 wr ++
        (if hit ((ilookup s.subsOf k).getD []) topic ∧ (wrTrySend acc.1 wr enc).2.2 = .ok then enc else []) :=
  pubFold_sub s topic enc pre post k wr acc hpre hpost

/-- `PubSocket::send` / `XPubSocket::send` IS that loop (definitional) … -/
theorem C12_world_publish_is_the_loop (w : World) (sid : Nat) (m : Msg) (s : Socket) (hs : getSock w sid = some s) :
    pubSend w sid m =
      (let r := s.peers.foldl (pubStep s (m.headD []) (encodeMsg m)) (w.pipes, [], [])
       let s1 := { s with peers := r.2.1 }
       let q := r.2.2.foldl (fun (acc : Pipes × Socket) k => peerDisconnected acc.1 acc.2 k) (r.1, s1)
       (setSock { w with pipes := q.1 } sid q.2, .ready .okUnit)) :=
  pubSend_fold w sid m s hs

/-- … whose clean-up phase touches no write side -/
theorem C12_world_publish_cleanup (w : World) (sid : Nat) (m : Msg) (s : Socket) (hs : getSock w sid = some s) (j : Nat) :
    wOf (pubSend w sid m).1.pipes j =
      wOf (s.peers.foldl (pubStep s (m.headD []) (encodeMsg m)) (w.pipes, [], [])).1 j :=
  pubSend_wOf w sid m s hs j

end Zmq.C12
