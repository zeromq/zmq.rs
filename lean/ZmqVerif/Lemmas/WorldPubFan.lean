import ZmqVerif.Lemmas.WorldSend
import ZmqVerif.Lemmas.Fold
namespace Zmq.W
open Zmq

/-- one subscriber's step of the publish loop, as a function of the pipes it meets -/
def pubStep (s : Socket) (topic enc : Bytes) (acc : Pipes × List (Ident × Wr) × List Ident) (e : Ident × Wr) :
    Pipes × List (Ident × Wr) × List Ident :=
  let (ps, peers, dead) := acc
  let subs := (ilookup s.subsOf e.1).getD []
  if hit subs topic then
    let (ps, wr, r) := wrTrySend ps e.2 enc
    let dead := match r with
      | .ioError => if (getPipe ps wr.pipe).wrBroken then dead ++ [e.1] else dead
      | _ => dead
    (ps, peers ++ [(e.1, wr)], dead)
  else (ps, peers ++ [e], dead)

theorem wrTrySend_out (ps : Pipes) (wr : Wr) (enc : Bytes) :
    outOf (wrTrySend ps wr enc).1 (wrTrySend ps wr enc).2.1 =
      outOf ps wr ++ (if (wrTrySend ps wr enc).2.2 = .ok then enc else []) := by
  have := Sink.trySend_stream hwmDefault (getPipe ps wr.pipe).w wr.buf enc
  simp only [wrTrySend, outOf, getPipe_setPipe_same]
  exact this

theorem wrTrySend_congr (ps ps2 : Pipes) (wr : Wr) (enc : Bytes) (h : getPipe ps wr.pipe = getPipe ps2 wr.pipe) :
    (wrTrySend ps wr enc).2 = (wrTrySend ps2 wr enc).2 := by
  simp only [wrTrySend, h]

theorem outOf_congr (ps ps2 : Pipes) (wr : Wr) (h : getPipe ps wr.pipe = getPipe ps2 wr.pipe) :
    outOf ps wr = outOf ps2 wr := by
  simp [outOf, h]

theorem pubStep_spec (s : Socket) (topic enc : Bytes) (acc : Pipes × List (Ident × Wr) × List Ident) (k : Ident) (wr : Wr) :
    ∃ wr', (pubStep s topic enc acc (k, wr)).2.1 = acc.2.1 ++ [(k, wr')] ∧ wr'.pipe = wr.pipe ∧
      (∀ j, j ≠ wr.pipe → getPipe (pubStep s topic enc acc (k, wr)).1 j = getPipe acc.1 j) ∧
      outOf (pubStep s topic enc acc (k, wr)).1 wr' = outOf acc.1 wr ++
        (if hit ((ilookup s.subsOf k).getD []) topic ∧ (wrTrySend acc.1 wr enc).2.2 = .ok then enc else []) := by
  obtain ⟨ps, peers, dead⟩ := acc
  by_cases hh : hit ((ilookup s.subsOf k).getD []) topic
  · simp only [pubStep, hh, ↓reduceIte, true_and]
    exact ⟨_, rfl, wrTrySend_pipe _ _ _, wrTrySend_frame _ _ _, wrTrySend_out _ _ _⟩
  · simp only [pubStep, hh, Bool.false_eq_true, ↓reduceIte, false_and, List.append_nil]
    exact ⟨wr, rfl, rfl, fun _ _ => trivial, rfl⟩

theorem pubFold_frame (s : Socket) (topic enc : Bytes) (l : List (Ident × Wr))
    (acc : Pipes × List (Ident × Wr) × List Ident) (p : Nat) (hp : ∀ e ∈ l, e.2.pipe ≠ p) :
    getPipe (l.foldl (pubStep s topic enc) acc).1 p = getPipe acc.1 p := by
  induction l generalizing acc with
  | nil => rfl
  | cons e t ih =>
    obtain ⟨_, _, _, hfr, _⟩ := pubStep_spec s topic enc acc e.1 e.2
    rw [List.foldl_cons, ih _ (fun x hx => hp x (List.mem_cons_of_mem _ hx))]
    exact hfr p (fun h => hp e (List.mem_cons_self ..) h.symm)

theorem pubFold_mem (s : Socket) (topic enc : Bytes) (l : List (Ident × Wr))
    (acc : Pipes × List (Ident × Wr) × List Ident) (x : Ident × Wr) (hx : x ∈ acc.2.1) :
    x ∈ (l.foldl (pubStep s topic enc) acc).2.1 := by
  refine List.foldl_inv (P := fun (acc : Pipes × List (Ident × Wr) × List Ident) => x ∈ acc.2.1) (fun acc e h => ?_) l hx
  obtain ⟨_, he, _⟩ := pubStep_spec s topic enc acc e.1 e.2
  rw [he]
  exact List.mem_append_left _ h

/-- **One publish, subscriber by subscriber.**  For a subscriber `(k, wr)` at any position of the table whose connection
is shared with no other subscriber: after the loop it is still in the table, on the same connection, and its
outgoing stream (wire ++ write buffer) is the old one followed by the WHOLE encoding — iff one of its subscriptions is
a prefix of the topic AND `try_send` accepted it (`C12_stream`: not at its high-water mark, no write error) — or by
nothing at all.  Never a part, never twice, whatever happens to the other subscribers (stalled, full, broken). -/
theorem pubFold_sub (s : Socket) (topic enc : Bytes) (pre post : List (Ident × Wr)) (k : Ident) (wr : Wr)
    (acc : Pipes × List (Ident × Wr) × List Ident)
    (hpre : ∀ e ∈ pre, e.2.pipe ≠ wr.pipe) (hpost : ∀ e ∈ post, e.2.pipe ≠ wr.pipe) :
    let r := (pre ++ (k, wr) :: post).foldl (pubStep s topic enc) acc
    ∃ wr', (k, wr') ∈ r.2.1 ∧ wr'.pipe = wr.pipe ∧
      outOf r.1 wr' = outOf acc.1 wr ++
        (if hit ((ilookup s.subsOf k).getD []) topic ∧ (wrTrySend acc.1 wr enc).2.2 = .ok then enc else []) := by
  simp only [List.foldl_append, List.foldl_cons]
  have hfr1 := pubFold_frame s topic enc pre acc wr.pipe hpre
  generalize pre.foldl (pubStep s topic enc) acc = A at hfr1
  obtain ⟨wr', hm, hpipe, _, hout⟩ := pubStep_spec s topic enc A k wr
  have hfr2 := pubFold_frame s topic enc post (pubStep s topic enc A (k, wr)) wr.pipe hpost
  refine ⟨wr', pubFold_mem _ _ _ _ _ _ (by rw [hm]; simp), hpipe, ?_⟩
  rw [outOf_congr _ (pubStep s topic enc A (k, wr)).1 wr' (by rw [hpipe]; exact hfr2), hout,
    outOf_congr A.1 acc.1 wr hfr1, wrTrySend_congr A.1 acc.1 wr enc hfr1]

/-- `PubSocket::send` / `XPubSocket::send` IS that loop, followed by forgetting the subscribers whose pipe is broken -/
theorem pubSend_fold (w : World) (sid : Nat) (m : Msg) (s : Socket) (hs : getSock w sid = some s) :
    pubSend w sid m =
      (let r := s.peers.foldl (pubStep s (m.headD []) (encodeMsg m)) (w.pipes, [], [])
       let s1 := { s with peers := r.2.1 }
       let q := r.2.2.foldl (fun (acc : Pipes × Socket) k => peerDisconnected acc.1 acc.2 k) (r.1, s1)
       (setSock { w with pipes := q.1 } sid q.2, .ready .okUnit)) := by
  unfold pubSend
  simp only [hs]
  rfl

theorem pubSend_wOf (w : World) (sid : Nat) (m : Msg) (s : Socket) (hs : getSock w sid = some s) (j : Nat) :
    wOf (pubSend w sid m).1.pipes j =
      wOf (s.peers.foldl (pubStep s (m.headD []) (encodeMsg m)) (w.pipes, [], [])).1 j := by
  rw [pubSend_fold w sid m s hs]
  simp only [setSock_pipes]
  -- forgetting the dead subscribers touches no write side
  exact List.foldl_inv (P := fun (a : Pipes × Socket) => wOf a.1 j = wOf _ j)
    (fun _ _ h => (peerDisconnected_wOf _ _ _ _).trans h) _ rfl

end Zmq.W
