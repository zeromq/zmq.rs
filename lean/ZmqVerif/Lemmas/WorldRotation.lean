import ZmqVerif.Lemmas.WorldSendStart
namespace Zmq.W
open Zmq

/-! # `send_round_robin` and the rotation queue (C10): WHO is chosen, and where it goes afterwards -/

theorem sendRRPoll_some_rr (fuel : Nat) (w : World) (sid : Nat) (m : Msg) (k : Ident) (st : SendSt) (s : Socket)
    (hs : getSock w sid = some s) (w' : World) (f' : FutSt) (o : POut)
    (h : sendRRPoll (fuel + 1) w sid m (some (k, st)) = (w', f', o)) :
    (o = .pending → (∃ st', f' = .sendRR sid m (some (k, st'))) ∧ ∃ s', getSock w' sid = some s' ∧ s'.rr = s.rr) ∧
    (o = .ready .okUnit → ∃ s', getSock w' sid = some s' ∧ s'.rr = s.rr ++ [k]) ∧
    (∀ m', o ≠ .ready (.errReturn m')) := by
  have hsk := sendStep_sock (fun st => .sendRR sid m (some (k, st))) (fun s => { s with rr := s.rr ++ [k] }) k st hs
  rw [← sendRRPoll_some_eq fuel, h] at hsk
  rcases hsk with ⟨st', wr', he, hg⟩ | ⟨wr', he, hg⟩ | ⟨_, _, he, _⟩ | he <;> cases he
  · exact ⟨fun _ => ⟨⟨st', rfl⟩, _, hg, rfl⟩, nofun, nofun⟩
  · exact ⟨nofun, fun _ => ⟨_, hg, rfl⟩, nofun⟩
  · exact ⟨nofun, nofun, nofun⟩
  · exact ⟨nofun, nofun, nofun⟩

/-- **Who is chosen.**  The first poll of a round-robin send walks the rotation queue from its head: entries whose peer
has vanished are dropped; the FIRST entry that is still registered is the peer chosen — whatever follows it in the queue
stays, in order.  While the send to it is in progress the queue holds what followed; when it completes the chosen peer
is appended at the back.  The message is handed back only when NO entry is registered. -/
theorem sendRRStart_choice (fuel : Nat) (w : World) (sid : Nat) (m : Msg) (s : Socket) (hs : getSock w sid = some s)
    (w' : World) (f' : FutSt) (o : POut) (h : sendRRPoll fuel w sid m none = (w', f', o)) :
    (o = .pending → ∃ k st' rest, f' = .sendRR sid m (some (k, st')) ∧ FirstLive s k rest ∧
        ∃ s', getSock w' sid = some s' ∧ s'.rr = rest) ∧
    (o = .ready .okUnit → ∃ k rest, FirstLive s k rest ∧ ∃ s', getSock w' sid = some s' ∧ s'.rr = rest ++ [k]) ∧
    (∀ m', o = .ready (.errReturn m') → ∀ j ∈ s.rr, ilookup s.peers j = none) := by
  rcases sendRRPoll_none fuel w sid m s hs with ⟨k, rest, w0, hfl, _, hs0, he⟩ | ⟨w0, _, hall, he⟩ | ⟨w0, he⟩
  · rw [← sendRRPoll_some_eq 0] at he      -- any fuel: the step does not depend on it
    obtain ⟨a, b, c⟩ := sendRRPoll_some_rr 0 w0 sid m k _ _ hs0 w' f' o (he.symm.trans h)
    refine ⟨fun ho => ?_, fun ho => ?_, fun m' ho => absurd ho (c m')⟩
    · obtain ⟨⟨st', hf⟩, hs'⟩ := a ho
      exact ⟨k, st', rest, hf, hfl, hs'⟩
    · exact ⟨k, rest, hfl, b ho⟩
  · cases h.symm.trans he; exact ⟨nofun, nofun, fun _ _ => hall⟩
  · cases h.symm.trans he; exact ⟨nofun, nofun, nofun⟩

/-- … and when that first poll already completes the send: the peer whose connection received the whole encoding IS
the first registered entry of the rotation queue, and it is the one appended at the back -/
theorem sendRRStart_done_who (fuel : Nat) (w : World) (sid : Nat) (m : Msg) (s : Socket) (hs : getSock w sid = some s)
    (w' : World) (f' : FutSt) (h : sendRRPoll fuel w sid m none = (w', f', .ready .okUnit)) :
    ∃ k rest wr, FirstLive s k rest ∧ ilookup s.peers k = some wr ∧
      (wOf w'.pipes wr.pipe).wire = outOf w.pipes wr ++ encodeMsg m ∧
      (∀ j, j ≠ wr.pipe → wOf w'.pipes j = wOf w.pipes j) ∧
      ∃ s', getSock w' sid = some s' ∧ s'.rr = rest ++ [k] := by
  rcases sendRRPoll_none fuel w sid m s hs with ⟨k, rest, w0, hfl, hps, hs0, he⟩ | ⟨w0, _, _, he⟩ | ⟨w0, he⟩
  · obtain ⟨wr, hp⟩ := hfl.peer
    have h' := he.symm.trans h
    obtain ⟨_, b, _⟩ := sendRRPoll_some_rr 0 w0 sid m k _ _ hs0 w' f' _ ((sendRRPoll_some_eq 0 ..).trans h')
    rw [← hps]
    exact sendStep_start (motive := fun _ o => o = .ready .okUnit → _) hs0 hp h' (fun hfr =>
      ⟨fun _ _ => nofun, fun hw _ => ⟨k, rest, wr, hfl, hp, hw, hfr, b rfl⟩, nofun⟩) rfl
  · cases h.symm.trans he
  · cases h.symm.trans he

end Zmq.W
