import ZmqVerif.Model.Sockets
/-! What the envelope functions and the subscription match of `Model.Sockets` accept, as equivalences; what a publisher
makes of an announced subscription set. -/
namespace Zmq

theorem reqUnwrap_eq_some_iff (m r : Msg) : reqUnwrap m = some r ↔ m = [] :: r ∧ r ≠ [] := by
  match m with
  | [] => simp [reqUnwrap]
  | [d] => simp [reqUnwrap]
  | d :: x :: t =>
    simp only [reqUnwrap, List.cons.injEq]
    constructor
    · intro h
      split at h
      · rename_i hd
        cases h
        exact ⟨⟨by simpa using hd, rfl⟩, nofun⟩
      · cases h
    · rintro ⟨⟨rfl, rfl⟩, -⟩; rfl

theorem repCut_first_empty (pre rest : Msg) (hpre : ∀ f ∈ pre, f ≠ []) :
    repCut (pre ++ [[]] ++ rest) = pre.length + 1 := by
  have h : pre.findIdx? (fun (f : Bytes) => f.isEmpty) = none :=
    List.findIdx?_eq_none_iff.2 fun f hf => by simpa using hpre f hf
  simp [repCut, List.append_assoc, List.findIdx?_append, h, List.findIdx?_cons]

theorem repSplit_eq_some_iff (m env data : Msg) :
    repSplit m = some (env, data) ↔ env ++ data = m ∧ data ≠ [] ∧ env.length = repCut m ∧ 2 ≤ m.length := by
  unfold repSplit
  constructor
  · intro h
    split at h
    · cases h
    · simp only at h
      split at h
      · cases h
      · cases h
        refine ⟨List.take_append_drop _ _, fun hd => ?_, ?_, by omega⟩
        · have := List.drop_eq_nil_iff.1 hd; omega
        · rw [List.length_take]; omega
  · rintro ⟨rfl, hd, hl, h2⟩
    have : 0 < data.length := List.length_pos_iff.2 hd
    rw [if_neg (by omega)]
    simp only [← hl, List.length_append]
    rw [if_neg (by omega), List.take_left, List.drop_left]

theorem hit_iff (subs : List Bytes) (topic : Bytes) : hit subs topic = true ↔ ∃ s, s ∈ subs ∧ s <+: topic := by
  simp only [hit, List.any_eq_true, List.isPrefixOf_iff_prefix]

theorem copies_eq_one_iff (subs : List Bytes) (topic : Bytes) : copies subs topic = 1 ↔ hit subs topic = true := by
  unfold copies; split <;> simp [*]

theorem foldl_onMsg_subsMsg (l acc : List Bytes) : (l.map (subsMsg true)).foldl onMsg acc = acc ++ l := by
  induction l generalizing acc with
  | nil => simp
  | cons t r ih => simp [subsMsg, onMsg, onData, ih]

end Zmq
