import ZmqVerif.Lemmas.FQStep
import ZmqVerif.Lemmas.Fold
/-! `Inv` is preserved by every step.  Four of its five clauses speak of one key at a time
(`InvAt`), and a transition moves the one token of one key `k`: for `k` the proof says where that
token goes, every other key is untouched (`Inv.local`). -/
namespace Zmq.FQ

theorem handKey_outKey (pc : Pc) (k : Nat) (h : handKey pc = some k) : outKey pc = some k := by
  cases pc with
  | c t k' r => cases r <;> simp_all [handKey, outKey]
  | _ => simp_all [handKey, outKey]

theorem inHand_of_not_out {s : St} (h : Inv s) (k : Nat) (hk : s.reg k ≠ .out) : inHand s k = 0 := by
  unfold inHand
  split
  · rename_i hh; exact absurd ((h.outPc k).2 (handKey_outKey _ _ hh)) hk
  · rfl

theorem Inv.in_hand {s : St} (h : Inv s) {k : Nat} (hh : handKey s.pc = some k) :
    cnt s.heap k = 0 ∧ (s.peer k).armed = none := by
  have ht := h.tok k (.inr ((h.outPc k).2 (handKey_outKey _ _ hh)))
  simp only [evs, armedN, inHand, hh, ite_true] at ht
  cases ha : (s.peer k).armed <;> simp [ha] at ht ⊢ <;> omega

/-- what `Inv` says about key `k` -/
structure InvAt (s : St) (k : Nat) : Prop where
  tok : live s k → cnt s.heap k + armedN s k + inHand s k = 1
  armedEmpty : (s.peer k).armed.isSome → (s.peer k).q = [] ∧ (s.peer k).closed = false
  absentClean : s.reg k = .absent → cnt s.heap k = 0 ∧ (s.peer k).armed = none
  outPc : s.reg k = .out ↔ outKey s.pc = some k

theorem inv_iff {s : St} :
    Inv s ↔ (s.pc = .parked → s.notified = false → s.heap = [] ∧ s.waker = true) ∧ ∀ k, InvAt s k :=
  ⟨fun h => ⟨h.i1, fun k => ⟨h.tok k, h.armedEmpty k, h.absentClean k, h.outPc k⟩⟩,
   fun h => ⟨h.1, fun k => (h.2 k).tok, fun k => (h.2 k).armedEmpty, fun k => (h.2 k).absentClean,
     fun k => (h.2 k).outPc⟩⟩

theorem InvAt.frame {s s' : St} {j : Nat} (h : InvAt s j) (hc : cnt s'.heap j = cnt s.heap j)
    (hr : s'.reg j = s.reg j) (hp : s'.peer j = s.peer j)
    (hh : handKey s'.pc = some j ↔ handKey s.pc = some j)
    (ho : outKey s'.pc = some j ↔ outKey s.pc = some j) : InvAt s' j := by
  obtain ⟨h1, h2, h3, h4⟩ := h
  refine ⟨?_, ?_, ?_, ?_⟩
  · simp only [live, armedN, inHand] at h1 ⊢
    rw [hc, hr, hp]; simpa only [hh] using h1
  · rwa [hp]
  · rwa [hc, hr, hp]
  · rwa [hr, ho]

theorem Inv.local {s s' : St} (h : Inv s) (k : Nat)
    (hi1 : s'.pc = .parked → s'.notified = false → s'.heap = [] ∧ s'.waker = true) (hk : InvAt s' k)
    (hc : ∀ j, j ≠ k → cnt s'.heap j = cnt s.heap j) (hr : ∀ j, j ≠ k → s'.reg j = s.reg j)
    (hp : ∀ j, j ≠ k → s'.peer j = s.peer j)
    (hh : ∀ j, j ≠ k → (handKey s'.pc = some j ↔ handKey s.pc = some j))
    (ho : ∀ j, j ≠ k → (outKey s'.pc = some j ↔ outKey s.pc = some j)) : Inv s' :=
  inv_iff.2 ⟨hi1, fun j => if e : j = k then e ▸ hk else
    ((inv_iff.1 h).2 j).frame (hc j e) (hr j e) (hp j e) (hh j e) (ho j e)⟩

theorem inv_tr {s s' : St} {op : Op} (tr : Tr s op s') (h : Inv s) : Inv s' := by
  have hk := (inv_iff.1 h).2
  cases tr with
  | skip => exact h
  | exhaust | setWaker => exact inv_iff.2 ⟨h.i1, fun j => (hk j).frame rfl rfl rfl .rfl .rfl⟩
  | pollStart hpc =>
    exact inv_iff.2 ⟨nofun, fun j => (hk j).frame rfl rfl rfl (by rcases hpc with h | h <;> simp [h, handKey])
      (by rcases hpc with h | h <;> simp [h, outKey])⟩
  | park hpc hh =>
    exact inv_iff.2 ⟨fun _ _ => ⟨hh, rfl⟩,
      fun j => (hk j).frame rfl rfl rfl (by simp [hpc, handKey]) (by simp [hpc, outKey])⟩
  | yield _ _ _ hpc | eof _ _ hpc =>
    exact inv_iff.2 ⟨nofun, fun j => (hk j).frame rfl rfl rfl (by simp [hpc, handKey]) (by simp [hpc, outKey])⟩
  | insert k hreg =>
    -- a token is minted for `k` and put on the heap
    refine h.local k (fun hp hn => ?_) ⟨fun _ => ?_, (hk k).armedEmpty, fun hr => ?_, ?_⟩
      (fun j e => by simp [Ne.symm e]) (fun j e => upd_other _ _ _ _ e) (fun _ _ => rfl) (fun _ _ => .rfl)
      (fun _ _ => .rfl)
    · -- a parked un-notified receiver had its waker published, so it is notified now
      obtain ⟨hn1, hn2⟩ := Bool.or_eq_false_iff.1 hn
      cases (h.i1 hp hn1).2.symm.trans hn2
    · obtain ⟨hc, ha⟩ := (hk k).absentClean hreg
      have hh := inHand_of_not_out h k (by rw [hreg]; nofun)
      simp only [inHand] at hh
      simp [armedN, inHand, hc, ha, hh]
    · simp at hr
    · simpa [hreg] using (hk k).outPc
  | remove k hreg =>
    -- `k` is no longer live: its heap events go stale, its armed waker goes with the stream
    refine h.local k h.i1 ⟨fun hl => ?_, fun ha => ?_, fun hr => ?_, ?_⟩
      (fun _ _ => rfl) (fun j e => upd_other _ _ _ _ e) (fun j e => upd_other _ _ _ _ e) (fun _ _ => .rfl)
      (fun _ _ => .rfl)
    · simp [live] at hl
    · simp at ha
    · simp at hr
    · simpa [hreg] using (hk k).outPc
  | feed _ k l c hc hq =>
    refine h.local k h.i1 ⟨fun hl => ?_, fun ha => ?_, fun hr => ⟨((hk k).absentClean hr).1, by simp⟩, (hk k).outPc⟩
      (fun _ _ => rfl) (fun _ _ => rfl) (fun j e => upd_other _ _ _ _ e) (fun _ _ => .rfl) (fun _ _ => .rfl)
    · have ha := hq.resolve_right (not_not_intro hl)
      have ht := (hk k).tok hl
      simp only [armedN, inHand, ha] at ht ⊢
      simpa using ht
    · simp at ha
  | feedFire _ k l c t hc ha hl =>
    -- the armed waker fires: the token of `k` goes back to the heap
    have ht := (hk k).tok hl
    simp only [armedN, ha, inHand, Option.isSome_some, ite_true] at ht
    refine h.local k (fun hp hn => ?_) ⟨fun _ => ?_, fun ha => ?_, fun hr => ?_, (hk k).outPc⟩
      (fun j e => by simp [Ne.symm e]) (fun _ _ => rfl) (fun j e => upd_other _ _ _ _ e) (fun _ _ => .rfl)
      (fun _ _ => .rfl)
    · obtain ⟨hn1, hn2⟩ := Bool.or_eq_false_iff.1 hn
      cases (h.i1 hp hn1).2.symm.trans hn2
    · simp only [inHand, armedN, cnt_cons, upd_same, Option.isSome_none, Bool.false_eq_true, ite_true, ite_false]
      omega
    · simp at ha
    · rcases hl with hl | hl <;> cases hl.symm.trans hr
  | checkout t k rest hpc hpop hseen hreg =>
    -- the token of `k` goes from the heap into the receiver's hand
    have hc := popMin_cnt hpop
    have ht := (hk k).tok (.inl hreg)
    simp only [inHand, armedN, hpc, handKey, hc, reduceCtorEq, ite_true, ite_false] at ht
    refine h.local k nofun ⟨fun _ => ?_, (hk k).armedEmpty, fun hr => ?_, ?_⟩
      (fun j e => by simp [hc, Ne.symm e]) (fun j e => upd_other _ _ _ _ e) (fun _ _ => rfl)
      (fun j e => by simp [hpc, handKey, Ne.symm e]) (fun j e => by simp [hpc, outKey, Ne.symm e])
    · simp only [inHand, armedN, handKey, ite_true]
      omega
    · simp at hr
    · simp [outKey]
  | stale t k rest hpc hpop hseen hreg =>
    -- an event of a stream that is no longer registered: nobody's token
    have hc := popMin_cnt hpop
    have hno : ¬ live s k := fun hl => hl.elim hreg fun ho => by simpa [hpc, outKey] using (hk k).outPc.1 ho
    refine h.local k (fun hp => (by rw [hpc] at hp; cases hp))
      ⟨fun hl => (hno hl).elim, (hk k).armedEmpty, fun hr => ⟨?_, ((hk k).absentClean hr).2⟩, (hk k).outPc⟩
      (fun j e => by simp [hc, Ne.symm e]) (fun _ _ => rfl) (fun _ _ => rfl) (fun _ _ => .rfl) (fun _ _ => .rfl)
    have := ((hk k).absentClean hr).1
    have := hc k
    show cnt rest k = 0
    omega
  | selfWake t k hpc =>
    -- the stream woke itself: the token in hand goes back to the heap
    have hout := (hk k).outPc.2 (by simp [hpc, outKey])
    obtain ⟨hc, ha⟩ := h.in_hand (k := k) (by simp [hpc, handKey])
    refine h.local k nofun ⟨fun _ => ?_, (hk k).armedEmpty, fun hr => ?_, ?_⟩
      (fun j e => by simp [Ne.symm e]) (fun _ _ => rfl) (fun _ _ => rfl)
      (fun j e => by simp [hpc, handKey, Ne.symm e]) (fun j e => by simp [hpc, outKey])
    · simp [inHand, armedN, handKey, hc, ha]
    · cases hout.symm.trans hr
    · simpa [hpc, outKey] using (hk k).outPc
  | item t k it q' hpc _ hq =>
    have hne := (h.in_hand (k := k) (by simp [hpc, handKey])).2
    refine h.local k nofun ⟨fun hl => ?_, fun ha => ?_, fun hr => ?_, ?_⟩
      (fun _ _ => rfl) (fun _ _ => rfl) (fun j e => upd_other _ _ _ _ e)
      (fun j e => by simp [hpc, handKey]) (fun j e => by simp [hpc, outKey])
    · simpa [armedN, inHand, hpc, handKey] using (hk k).tok hl
    · simp [hne] at ha
    · simpa using (hk k).absentClean hr
    · simpa [hpc, outKey] using (hk k).outPc
  | arm t k hpc _ hq hc =>
    -- `Pending`: the token in hand becomes the armed waker
    have hout := (hk k).outPc.2 (by simp [hpc, outKey])
    have h0 := (h.in_hand (k := k) (by simp [hpc, handKey])).1
    refine h.local k nofun ⟨fun _ => ?_, fun _ => ?_, fun hr => ?_, ?_⟩
      (fun _ _ => rfl) (fun _ _ => rfl) (fun j e => upd_other _ _ _ _ e)
      (fun j e => by simp [hpc, handKey, Ne.symm e]) (fun j e => by simp [hpc, outKey])
    · simp [inHand, armedN, handKey, h0]
    · simpa using ⟨hq, hc⟩
    · cases hout.symm.trans hr
    · simpa [hpc, outKey] using (hk k).outPc
  | deliver t k item hpc =>
    -- the token in hand is re-ticketed and goes back to the heap
    obtain ⟨hc, ha⟩ := h.in_hand (k := k) (by simp [hpc, handKey])
    refine h.local k nofun ⟨fun _ => ?_, (hk k).armedEmpty, fun hr => ?_, ?_⟩
      (fun j e => by simp [Ne.symm e]) (fun j e => upd_other _ _ _ _ e) (fun _ _ => rfl)
      (fun j e => by simp [hpc, handKey, Ne.symm e]) (fun j e => by simp [hpc, outKey, Ne.symm e])
    · simp [inHand, armedN, handKey, hc, ha]
    · simp at hr
    · simp [outKey]
  | drop t k hpc =>
    refine h.local k nofun ⟨fun hl => ?_, (hk k).armedEmpty, fun hr => ?_, ?_⟩
      (fun _ _ => rfl) (fun j e => upd_other _ _ _ _ e) (fun _ _ => rfl)
      (fun j e => by simp [hpc, handKey, Ne.symm e]) (fun j e => by simp [hpc, outKey, Ne.symm e])
    · simp [live] at hl
    · simp at hr
    · simp [outKey]
  | putBack t k hpc =>
    have ht := (hk k).tok (.inr ((hk k).outPc.2 (by simp [hpc, outKey])))
    refine h.local k nofun ⟨fun _ => ?_, (hk k).armedEmpty, fun hr => ?_, ?_⟩
      (fun _ _ => rfl) (fun j e => upd_other _ _ _ _ e) (fun _ _ => rfl)
      (fun j e => by simp [hpc, handKey]) (fun j e => by simp [hpc, outKey, Ne.symm e])
    · simpa [inHand, armedN, hpc, handKey] using ht
    · simp at hr
    · simp [outKey]

theorem step_inv (s : St) (op : Op) (h : Inv s) : Inv (step s op) :=
  inv_tr (step_tr s op) h

theorem inv_init : Inv ({} : St) := by
  refine ⟨?_, ?_, ?_, ?_, ?_⟩ <;> simp [outKey]

theorem reachable_inv (ops : List Op) : Inv (ops.foldl step {}) :=
  List.foldl_inv step_inv ops inv_init

theorem avail_has_event (s : St) (h : Inv s) (k : Nat) (hreg : s.reg k = .inMap)
    (hav : (s.peer k).q ≠ [] ∨ (s.peer k).closed = true) : cnt s.heap k = 1 := by
  have ht := h.tok k (Or.inl hreg)
  have hh := inHand_of_not_out h k (by simp [hreg])
  have harm : (s.peer k).armed = none := by
    cases ha : (s.peer k).armed with
    | none => rfl
    | some t =>
      have := h.armedEmpty k (by simp [ha])
      rcases hav with hq | hc
      · exact absurd this.1 hq
      · simp [this.2] at hc
  simpa [evs, armedN, harm, hh] using ht

/-- the one token of a registered stream is then its armed waker: the next readiness change fires it -/
theorem parked_armed {s : St} (h : Inv s) (hp : s.pc = .parked) (hn : s.notified = false)
    {k : Nat} (hreg : s.reg k = .inMap) : ∃ t, (s.peer k).armed = some t := by
  have ht := h.tok k (.inl hreg)
  rw [evs, (h.i1 hp hn).1, cnt_nil, inHand, hp, armedN] at ht
  cases ha : (s.peer k).armed with
  | some t => exact ⟨t, rfl⟩
  | none => simp [ha, handKey] at ht

/-- no lost wake-up, safety form -/
theorem parked_means_nothing_ready (s : St) (h : Inv s) (hp : s.pc = .parked) (hn : s.notified = false)
    (k : Nat) (hreg : s.reg k = .inMap) : (s.peer k).q = [] ∧ (s.peer k).closed = false :=
  let ⟨_, ha⟩ := parked_armed h hp hn hreg
  h.armedEmpty k (by rw [ha]; rfl)

end Zmq.FQ
