import ZmqVerif.Lemmas.WorldRecv
/-!
# Histories of the receive path: polls interleaved with bytes arriving

`Reach` = any finite sequence of (a) steps that satisfy `Step` — every `recv` poll does, by
`recvPoll_spec` — and (b) bytes arriving on any pipe.  The invariant relates, for every connection
registered at the start, what has been TAKEN from it so far to what its whole byte stream so far
decodes to.
-/
namespace Zmq.W
open Zmq

theorem Rd.rem_reveal {ps ps' : Pipes} (rd : Rd) (x : Bytes)
    (h : inbufOf ps' rd.pipe = inbufOf ps rd.pipe ++ x) : rd.rem ps' = (rd.rem ps).extend x := by
  simp only [Rd.rem, h]
  rw [← List.append_assoc, run_extend]

def arrive (p : Nat) (x : Bytes) (j : Nat) : Bytes := if j = p then x else []

/-- every state reachable from `(ps0, m0)` by steps that satisfy `Step` (every `recv` poll does)
and by bytes arriving on pipes; `taken k` = everything taken from connection `k` so far, in
order; `rev j` = the bytes that have arrived on pipe `j` since the start -/
inductive Reach (ps0 : Pipes) (m0 : Streams) : Pipes → Streams → (Ident → List Item) → (Nat → Bytes) → Prop
  | init : Reach ps0 m0 ps0 m0 nilC (fun _ => [])
  | poll {ps m taken rev ps' m' c} : Reach ps0 m0 ps m taken rev → Step ps m ps' m' c →
      Reach ps0 m0 ps' m' (fun k => taken k ++ c k) rev
  | reveal {ps m taken rev ps'} (p : Nat) (x : Bytes) : Reach ps0 m0 ps m taken rev →
      (∀ j, inbufOf ps' j = inbufOf ps j ++ arrive p x j) →
      Reach ps0 m0 ps' m taken (fun j => rev j ++ arrive p x j)

/-- what the WHOLE byte stream of a connection so far decodes to: the reader's state at the start,
the bytes that were waiting then, and everything that has arrived since -/
def total (ps0 : Pipes) (rd0 : Rd) (rev : Nat → Bytes) : RunOut :=
  run rd0.dec (rd0.buf ++ inbufOf ps0 rd0.pipe ++ rev rd0.pipe)

theorem total_append (ps0 : Pipes) (rd0 : Rd) (rev f : Nat → Bytes) :
    total ps0 rd0 (fun j => rev j ++ f j) = (total ps0 rd0 rev).extend (f rd0.pipe) := by
  simp only [total]
  rw [← List.append_assoc, run_extend]

theorem total_extend (ps0 : Pipes) (rd0 : Rd) (rev : Nat → Bytes) (y : Bytes) :
    total ps0 rd0 (fun j => rev j ++ (if j = rd0.pipe then y else [])) = (total ps0 rd0 rev).extend y := by
  rw [total_append, if_pos rfl]

/-- **The invariant of every history.**  For a connection `k` registered at the start: while it is
registered, the decode of its whole byte stream so far is EXACTLY what has been taken from it,
followed by what its reader still has in front of it (same decoder state, same leftover, same
first error); once it is gone, what was taken from it is a prefix of that decode. -/
theorem Reach.inv {ps0 : Pipes} {m0 : Streams} {ps : Pipes} {m : Streams} {taken : Ident → List Item}
    {rev : Nat → Bytes} (h : Reach ps0 m0 ps m taken rev) (k : Ident) (rd0 : Rd) (h0 : ilookup m0 k = some rd0) :
    (∀ rd, ilookup m k = some rd → rd.pipe = rd0.pipe ∧ total ps0 rd0 rev = (rd.rem ps).pre (taken k)) ∧
    (ilookup m k = none → taken k <+: (total ps0 rd0 rev).items) := by
  induction h with
  | init =>
    refine ⟨fun rd hl => ?_, fun hn => by rw [h0] at hn; cases hn⟩
    rw [h0] at hl; cases hl
    exact ⟨rfl, by simp [total, Rd.rem, nilC]⟩
  | @poll ps m taken rev ps' m' c _ hs ih =>
    refine ⟨fun rd' hl => ?_, fun hn => ?_⟩
    · obtain ⟨rd, hm, hp, e⟩ := hs.old k rd' hl
      obtain ⟨hp0, et⟩ := ih.1 rd hm
      exact ⟨hp.trans hp0, by show _ = RunOut.pre (taken k ++ c k) _; rw [et, e, RunOut.pre_pre]⟩
    · show taken k ++ c k <+: _
      cases hm : ilookup m k with
      | none => rw [hs.nil k hm, List.append_nil]; exact ih.2 hm
      | some rd =>
        rw [(ih.1 rd hm).2, RunOut.pre_items, ← Rd.items, hs.gone k rd hm hn]
        exact List.prefix_refl _
  | @reveal ps m taken rev ps' p x _ hin ih =>
    refine ⟨fun rd hl => ?_, fun hn => ?_⟩
    · obtain ⟨hp0, et⟩ := ih.1 rd hl
      refine ⟨hp0, ?_⟩
      have e2 : rd.rem ps' = (rd.rem ps).extend (arrive p x rd0.pipe) := by
        rw [← hp0]; exact Rd.rem_reveal rd _ (hin rd.pipe)
      rw [total_append, et, extend_pre, e2]
    · refine (ih.2 hn).trans ?_
      simp only [total]
      rw [← List.append_assoc]
      exact run_append_items _ _ _

/-- a history of `recv` polls on a socket of type `t` and of bytes arriving.  `log` records, for every
poll that consumed a message, the connection it came from, the message as it was on the wire, and what
`recv` returned for it. -/
inductive RecvRun (t : SockType) (ps0 : Pipes) (m0 : Streams) :
    Pipes → Streams → (Ident → List Item) → (Nat → Bytes) → List (Ident × Msg × POut) → Prop
  | init : RecvRun t ps0 m0 ps0 m0 nilC (fun _ => []) []
  | poll {ps m taken rev log ps' m' c} (o : POut) : RecvRun t ps0 m0 ps m taken rev log →
      Step ps m ps' m' c → RecvPost t c o → (∀ k, msgsOf (c k) = []) →
      RecvRun t ps0 m0 ps' m' (fun k => taken k ++ c k) rev log
  | msg {ps m taken rev log ps' m' c} (o : POut) (k : Ident) (w : Msg) : RecvRun t ps0 m0 ps m taken rev log →
      Step ps m ps' m' c → msgsOf (c k) = [w] → (∀ j, j ≠ k → msgsOf (c j) = []) →
      (match o with
       | .ready (.okMsg r) => deliver t k w = some r
       | .ready (.err _) => deliver t k w = none
       | _ => False) →
      RecvRun t ps0 m0 ps' m' (fun k => taken k ++ c k) rev (log ++ [(k, w, o)])
  | reveal {ps m taken rev log ps'} (p : Nat) (x : Bytes) : RecvRun t ps0 m0 ps m taken rev log →
      (∀ j, inbufOf ps' j = inbufOf ps j ++ arrive p x j) →
      RecvRun t ps0 m0 ps' m taken (fun j => rev j ++ arrive p x j) log

theorem RecvRun.reach {t : SockType} {ps0 : Pipes} {m0 : Streams} {ps : Pipes} {m : Streams}
    {taken : Ident → List Item} {rev : Nat → Bytes} {log : List (Ident × Msg × POut)}
    (h : RecvRun t ps0 m0 ps m taken rev log) : Reach ps0 m0 ps m taken rev := by
  induction h with
  | init => exact .init
  | poll _ _ hs _ _ ih => exact .poll ih hs
  | msg _ _ _ _ hs _ _ _ ih => exact .poll ih hs
  | reveal p x _ hin ih => exact .reveal p x ih hin

theorem RecvRun.step {t : SockType} {ps0 : Pipes} {m0 : Streams} {ps : Pipes} {m : Streams}
    {taken : Ident → List Item} {rev : Nat → Bytes} {log : List (Ident × Msg × POut)}
    (h : RecvRun t ps0 m0 ps m taken rev log) {ps' : Pipes} {m' : Streams} {c : Ident → List Item} {o : POut}
    (hs : Step ps m ps' m' c) (hp : RecvPost t c o) :
    ∃ log', RecvRun t ps0 m0 ps' m' (fun k => taken k ++ c k) rev log' ∧
      (log' = log ∨ ∃ k w, log' = log ++ [(k, w, o)]) := by
  have hp0 := hp
  unfold RecvPost at hp
  split at hp
  · exact ⟨log, .poll _ h hs hp0 hp, .inl rfl⟩
  · obtain ⟨k, w, h1, h2, h3⟩ := hp
    exact ⟨_, .msg _ k w h hs h1 h3 h2, .inr ⟨k, w, rfl⟩⟩
  · rcases hp with hp | ⟨k, w, h1, h2, h3⟩
    · exact ⟨log, .poll _ h hs hp0 hp, .inl rfl⟩
    · exact ⟨_, .msg _ k w h hs h1 h3 h2, .inr ⟨k, w, rfl⟩⟩
  · exact hp.elim

theorem RecvRun.log_eq {t : SockType} {ps0 : Pipes} {m0 : Streams} {ps : Pipes} {m : Streams}
    {taken : Ident → List Item} {rev : Nat → Bytes} {log : List (Ident × Msg × POut)}
    (h : RecvRun t ps0 m0 ps m taken rev log) (k : Ident) :
    (log.filter (fun e => e.1 == k)).map (·.2.1) = msgsOf (taken k) := by
  induction h with
  | init => rfl
  | poll _ _ _ _ hz ih => rw [msgsOf_append, hz, List.append_nil]; exact ih
  | msg o k' w _ _ h1 h3 _ ih =>
    rw [msgsOf_append, List.filter_append, List.map_append, ih]
    by_cases hk : k = k'
    · subst hk; simp [h1]
    · have : (k' == k) = false := by simpa using fun e => hk e.symm
      simp [h3 k hk, this]
  | reveal _ _ _ _ ih => exact ih

/-- **Exactly once, whole, in order — for every history.**  Take any history of `recv` polls and of bytes
arriving (in any segmentation, on any connection, valid or not).  For a connection `k` that was
registered at the start and still is: the complete messages in `k`'s whole byte stream so far are
EXACTLY the messages `recv` has consumed from `k` (each returned to the application as the socket type
presents it, or — REP — rejected with one error), in the same order, followed by the complete
messages still waiting in front of its reader.  Nothing is lost, duplicated, reordered, merged with
or split across another connection's messages. -/
theorem RecvRun.exactly_once {t : SockType} {ps0 : Pipes} {m0 : Streams} {ps : Pipes} {m : Streams}
    {taken : Ident → List Item} {rev : Nat → Bytes} {log : List (Ident × Msg × POut)}
    (h : RecvRun t ps0 m0 ps m taken rev log) (k : Ident) (rd0 rd : Rd)
    (h0 : ilookup m0 k = some rd0) (hk : ilookup m k = some rd) :
    msgsOf (total ps0 rd0 rev).items =
      (log.filter (fun e => e.1 == k)).map (·.2.1) ++ msgsOf (rd.items ps) := by
  obtain ⟨_, e⟩ := (h.reach.inv k rd0 h0).1 rd hk
  rw [e, RunOut.pre_items, msgsOf_append, h.log_eq k]
  rfl

/-- … and for a connection that is gone (ended, failed, or dropped for a protocol error), what was
consumed from it is a prefix of the complete messages of its byte stream: a message cut short by the
disconnect was never surfaced, none was invented. -/
theorem RecvRun.gone_prefix {t : SockType} {ps0 : Pipes} {m0 : Streams} {ps : Pipes} {m : Streams}
    {taken : Ident → List Item} {rev : Nat → Bytes} {log : List (Ident × Msg × POut)}
    (h : RecvRun t ps0 m0 ps m taken rev log) (k : Ident) (rd0 : Rd)
    (h0 : ilookup m0 k = some rd0) (hk : ilookup m k = none) :
    (log.filter (fun e => e.1 == k)).map (·.2.1) <+: msgsOf (total ps0 rd0 rev).items := by
  rw [h.log_eq k]
  obtain ⟨r, hr⟩ := (h.reach.inv k rd0 h0).2 hk
  rw [← hr, msgsOf_append]
  exact List.prefix_append _ _

/-- what the application got for every message consumed, over any history: the message as the socket type presents it
(`deliver`), or one error when the type's envelope rule rejects it — nothing else ever enters the log -/
theorem RecvRun.log_spec {t : SockType} {ps0 : Pipes} {m0 : Streams} {ps : Pipes} {m : Streams}
    {taken : Ident → List Item} {rev : Nat → Bytes} {log : List (Ident × Msg × POut)}
    (h : RecvRun t ps0 m0 ps m taken rev log) :
    ∀ e ∈ log, (∃ r, e.2.2 = .ready (.okMsg r) ∧ deliver t e.1 e.2.1 = some r) ∨
               (∃ x, e.2.2 = .ready (.err x) ∧ deliver t e.1 e.2.1 = none) := by
  induction h with
  | init => intro e he; cases he
  | poll _ _ _ _ _ ih => exact ih
  | msg o k w _ _ _ _ ho ih =>
    intro e he
    rcases List.mem_append.mp he with he | he
    · exact ih e he
    · simp only [List.mem_singleton] at he
      subst he
      split at ho
      · exact .inl ⟨_, rfl, ho⟩
      · exact .inr ⟨_, rfl, ho⟩
      · exact ho.elim
  | reveal _ _ _ _ ih => exact ih

theorem RecvRun.log_ok {t : SockType} {ps0 : Pipes} {m0 : Streams} {ps : Pipes} {m : Streams}
    {taken : Ident → List Item} {rev : Nat → Bytes} {log : List (Ident × Msg × POut)}
    (h : RecvRun t ps0 m0 ps m taken rev log) {f : Ident → Msg → Msg} (hd : ∀ k w, deliver t k w = some (f k w)) :
    ∀ e ∈ log, e.2.2 = .ready (.okMsg (f e.1 e.2.1)) := by
  intro e he
  rcases h.log_spec e he with ⟨r, h1, h2⟩ | ⟨x, _, h2⟩
  · rw [hd] at h2; cases h2; exact h1
  · rw [hd] at h2; cases h2

end Zmq.W
