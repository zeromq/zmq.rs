import ZmqVerif.Model.Tables
import ZmqVerif.Spec.Compat
/-! Facts about the regenerated compatibility table (`Gen.compat`) that more than one property needs.  The table is
evaluated row by row (144 rows), never looked up pair by pair (144 lookups in a 144-entry list). -/
namespace Zmq

theorem SockType.mem_all (t : SockType) : t ∈ SockType.all := by cases t <;> decide

theorem SockType.ofNat?_toNat (t : SockType) : SockType.ofNat? t.toNat = some t := by cases t <;> rfl

/-- the dump has a row for each of the 144 ordered pairs of socket types (in the order of `SockType.all`) -/
theorem compat_keys : Gen.compat.map (fun e => (e.1, e.2.1)) =
    SockType.all.flatMap fun a => SockType.all.map fun b => (a.toNat, b.toNat) := by decide +kernel

/-- … so `compatible a b` is the answer in a row for `(a, b)`: what holds of every row holds of every lookup -/
theorem compatible_row (a b : SockType) : (a.toNat, b.toNat, compatible a b) ∈ Gen.compat := by
  unfold compatible compatAt
  cases h : Gen.compat.find? _ with
  | none =>
    have hk : (a.toNat, b.toNat) ∈ Gen.compat.map (fun e => (e.1, e.2.1)) := by
      rw [compat_keys]
      exact List.mem_flatMap.2 ⟨a, a.mem_all, List.mem_map.2 ⟨b, b.mem_all, rfl⟩⟩
    obtain ⟨e, he, hab⟩ := List.mem_map.1 hk
    have := List.find?_eq_none.1 h e he
    rw [(Prod.mk.inj hab).1, (Prod.mk.inj hab).2] at this
    simp at this
  | some e =>
    have hp := List.find?_some h
    simp only [Bool.and_eq_true, beq_iff_eq] at hp
    rw [← hp.1, ← hp.2]
    exact List.mem_of_find?_eq_some h

/-- `SocketType::compatible` answered (did not panic) on every one of the 144 ordered pairs -/
theorem compatible_total (a b : SockType) : compatible a b ≠ none := fun h => by
  have := List.all_eq_true.1 (by decide : Gen.compat.all (·.2.2.isSome) = true) _ (compatible_row a b)
  rw [h] at this
  cases this

theorem Rfc.compatRfc_symm (a b : SockType) : Rfc.compatRfc a b = Rfc.compatRfc b a := by
  cases a <;> cases b <;> rfl

end Zmq
