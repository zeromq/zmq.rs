import ZmqVerif.Lemmas.WorldAdmit
import ZmqVerif.Lemmas.WorldSend
namespace Zmq.W
open Zmq

/-! # The handshake completes when everything is there (C04, the "if" direction end to end)

On a connection whose write side takes everything at once a sending stage is over within the poll
(`attachPoll_send_free`); with the peer's greeting and READY waiting, the reading stages are too (Lemmas/WorldAdmit): the
whole handshake is ONE poll. -/

/-- the version rule of `negotiate_version` -/
def vOk (g : Greeting) : Prop := g.major.toNat > 3 ∨ (g.major.toNat = 3 ∧ g.minor.toNat ≥ 0)

/-- **A sending stage on a connection that takes everything at once** goes straight on, in the same poll, to the stage
that follows it, with the whole encoding on the wire. -/
theorem attachPoll_send_free (fuel : Nat) (w : World) (sid pid : Nat) (rd : Rd) (wr : Wr) (s : Socket) (enc : Bytes)
    (hs : getSock w sid = some s) (hb : wr.buf = []) (hfree : Free w.pipes wr.pipe) :
    ∃ ps' wr', wr'.pipe = wr.pipe ∧ wr'.buf = [] ∧ Free ps' wr.pipe ∧
      (wOf ps' wr.pipe).wire = (wOf w.pipes wr.pipe).wire ++ enc ∧ (∀ j, inbufOf ps' j = inbufOf w.pipes j) ∧
      attachPoll (fuel + 1) w sid pid (.sendGreeting (.feeding enc)) rd wr =
        attachPoll fuel { w with pipes := ps' } sid pid .readGreeting rd wr' ∧
      attachPoll (fuel + 1) w sid pid (.sendReady (.feeding enc)) rd wr =
        attachPoll fuel { w with pipes := ps' } sid pid .readReady rd wr' ∧
      ∀ ident todo, attachPoll (fuel + 1) w sid pid (.resub ident todo (some (.feeding enc))) rd wr =
        attachPoll fuel { w with pipes := ps' } sid pid (.resub ident todo none) rd wr' := by
  obtain ⟨ps', wr', h, h1, h2, h3, h4, h5⟩ := wrSendPoll_free w.pipes wr enc hb hfree
  exact ⟨ps', wr', h1, h2, h3, h4, h5, by simp only [attachPoll, hs, h], by simp only [attachPoll, hs, h],
    fun _ _ => by simp only [attachPoll, hs, h]⟩

/-- the first three stages on a free connection with the peer's greeting there: greeting out, greeting in, READY out -/
theorem attachPoll_to_readReady (m : Nat) (w : World) (sid pid : Nat) (rd : Rd) (wr : Wr) (s : Socket) (encG : Bytes)
    (hs : getSock w sid = some s) (hb : wr.buf = []) (hfree : Free w.pipes wr.pipe)
    (g : Greeting) (items : List Item) (hitems : rd.items w.pipes = .greeting g :: items) (hv : vOk g) :
    ∃ psC rdB wrC, attachPoll (m + 3) w sid pid (.sendGreeting (.feeding encG)) rd wr =
        attachPoll m { w with pipes := psC } sid pid .readReady rdB wrC ∧
      rdB.items psC = items ∧ wrC.pipe = wr.pipe ∧ wrC.buf = [] ∧ Free psC wr.pipe ∧
      (wOf psC wr.pipe).wire = (wOf w.pipes wr.pipe).wire ++ encG ++ encodeReady s.typ s.ident false := by
  obtain ⟨psA, wrA, hA1, hA2, hA3, hA4, hA5, e1, -, -⟩ := attachPoll_send_free (m + 2) w sid pid rd wr s encG hs hb hfree
  obtain ⟨psB, rdB, hitB, hwB, e2⟩ := attachPoll_readGreeting (m + 1) { w with pipes := psA } sid pid rd wrA s hs _ items
    ((Rd.items_frame _ _ rd (hA5 _)).trans hitems)
  simp only [show _ ∨ _ from hv, if_true] at e2
  obtain ⟨psC, wrC, hC1, hC2, hC3, hC4, hC5, -, e3, -⟩ := attachPoll_send_free m { w with pipes := psB } sid pid rdB wrA s
    (encodeReady s.typ s.ident false) hs hA2 (hA1 ▸ hA3.congr (hwB _))
  rw [hA1] at hC1 hC3 hC4
  exact ⟨psC, rdB, wrC, by rw [e1, e2, e3], (Rd.items_frame _ _ rdB (hC5 _)).trans hitB, hC1, hC2, hC3,
    by rw [hC4, hwB, hA4]⟩

/-- **The handshake completes when everything is there.**  A socket (not SUB, alive) starts the handshake on a connection
whose write side takes everything at once, and the connection's byte stream — in whatever segmentation it arrived —
begins with a greeting of an acceptable version followed by a READY that `admitPeer` admits under `ident`.  Then ONE
poll of the handshake future completes with `Ok(ident)`, and the peer is in the socket's peer table under `ident`. -/
theorem attachPoll_completes (n : Nat) (w : World) (sid pid : Nat) (rd : Rd) (wr : Wr) (s : Socket) (encG : Bytes)
    (hs : getSock w sid = some s) (hns : s.typ ≠ .sub) (halive : s.dead = false)
    (hb : wr.buf = []) (hfree : Free w.pipes wr.pipe)
    (g : Greeting) (props : List (Bytes × Bytes)) (rest : List Item)
    (hitems : rd.items w.pipes = .greeting g :: .command props :: rest) (hv : vOk g)
    (ident : Ident) (fresh' : Nat) (hadm : admitPeer s.typ props w.fresh = .ok (ident, fresh')) :
    ∃ w' s' wr', attachPoll (n + 4) w sid pid (.sendGreeting (.feeding encG)) rd wr = (w', .done, .ready (.okId ident)) ∧
      getSock w' sid = some s' ∧ ilookup s'.peers ident = some wr' ∧ wr'.pipe = wr.pipe := by
  obtain ⟨psC, rdB, wrC, e, hitC, hC1, -⟩ :=
    attachPoll_to_readReady (n + 1) w sid pid rd wr s encG hs hb hfree g _ hitems hv
  obtain ⟨psD, rdD, -, e2⟩ := attachPoll_readReady n { w with pipes := psC } sid pid rdB wrC s hs props rest hitC
  simp only [show admitPeer s.typ props w.fresh = _ from hadm, hns, halive, if_false, Bool.false_eq_true] at e2
  exact ⟨_, _, wrC, by rw [e, e2], getSock_setSock_same _ _ _, register_peers _ _ _ _ _, hC1⟩

end Zmq.W
