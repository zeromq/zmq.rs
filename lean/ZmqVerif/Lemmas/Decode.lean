import ZmqVerif.Lemmas.Segment
import ZmqVerif.Lemmas.Rfc
namespace Zmq

theorem decode_header (p : List Bytes) (b : UInt8) (rest : Bytes) :
    decode ⟨.header, p⟩ (b :: rest) = decode ⟨.len (Flags.ofByte b), p⟩ rest := by
  rw [decode_eq, if_neg (by simp [DState.need]), step_header]

theorem decode_len_short (f : Flags) (hf : f.long = false) (p : List Bytes) (b : UInt8) (rest : Bytes) :
    decode ⟨.len f, p⟩ (b :: rest) = decode ⟨.body f b.toNat, p⟩ rest := by
  rw [decode_eq, if_neg (by simp [DState.need, hf]), step_len_short hf]

theorem decode_len_long (f : Flags) (hf : f.long = true) (p : List Bytes) (buf : Bytes)
    (h8 : 8 ≤ buf.length) :
    decode ⟨.len f, p⟩ buf = decode ⟨.body f (beNat (buf.take 8)), p⟩ (buf.drop 8) := by
  rw [decode_eq, if_neg (by simpa [DState.need, hf] using h8), step_len_long hf p buf h8]

theorem decode_body (f : Flags) (n : Nat) (p : List Bytes) (buf : Bytes) (hn : n ≤ buf.length) :
    decode ⟨.body f n, p⟩ buf =
      if f.command then
        match parseCommand (buf.take n) with
        | .ok ps => .item (.command ps) ⟨.header, p⟩ (buf.drop n)
        | .err e => .fail e ⟨.header, p⟩ (buf.drop n)
        | .panic s => .panic s ⟨.body f n, p⟩ buf
      else if f.more then decode ⟨.header, p ++ [buf.take n]⟩ (buf.drop n)
      else .item (.message (p ++ [buf.take n])) ⟨.header, []⟩ (buf.drop n) := by
  rw [decode_eq, if_neg (by simpa [DState.need] using hn), step_body f n p buf hn]
  cases f.command
  · cases f.more <;> rfl
  · cases parseCommand (buf.take n) <;> rfl

theorem decode_body_command (f : Flags) (hc : f.command = true) (n : Nat)
    (p : List Bytes) (buf : Bytes) (hn : n ≤ buf.length) :
    decode ⟨.body f n, p⟩ buf =
      match parseCommand (buf.take n) with
      | .ok ps => .item (.command ps) ⟨.header, p⟩ (buf.drop n)
      | .err e => .fail e ⟨.header, p⟩ (buf.drop n)
      | .panic s => .panic s ⟨.body f n, p⟩ buf := by
  simp [decode_body f n p buf hn, hc]

theorem ofByte_short (more : Bool) :
    Flags.ofByte (if more then 1 else 0) = { command := false, long := false, more := more } := by
  cases more <;> decide

theorem ofByte_long (more : Bool) :
    Flags.ofByte (if more then 3 else 2) = { command := false, long := true, more := more } := by
  cases more <;> decide

theorem decode_body_exact (f : Flags) (hc : f.command = false) (p : List Bytes) (body tail : Bytes) :
    decode ⟨.body f body.length, p⟩ (body ++ tail) =
      if f.more then decode ⟨.header, p ++ [body]⟩ tail
      else .item (.message (p ++ [body])) ⟨.header, []⟩ tail := by
  rw [decode_body _ _ _ _ (by simp), List.take_left, List.drop_left]
  simp [hc]

theorem decode_encodeFrame (more : Bool) (body tail : Bytes) (p : List Bytes)
    (h64 : body.length < 2 ^ 64) :
    decode ⟨.header, p⟩ (encodeFrame more body ++ tail) =
      if more then decode ⟨.header, p ++ [body]⟩ tail
      else .item (.message (p ++ [body])) ⟨.header, []⟩ tail := by
  unfold encodeFrame frameHeader
  split <;> simp only [List.cons_append, List.nil_append, List.append_assoc]
  · rw [decode_header, ofByte_long, decode_len_long _ rfl _ _ (by simp), List.take_left' (be_length 8 _),
      List.drop_left' (be_length 8 _), beNat_be_of_lt (k := 8) h64, decode_body_exact _ rfl]
  · rw [decode_header, ofByte_short, decode_len_short _ rfl, ofNat_toNat_small _ (by omega),
      decode_body_exact _ rfl]

theorem decode_encodeMsg (fs : List Bytes) (hne : fs ≠ []) (h64 : ∀ f ∈ fs, f.length < 2 ^ 64)
    (p : List Bytes) (tail : Bytes) :
    decode ⟨.header, p⟩ (encodeMsg fs ++ tail) = .item (.message (p ++ fs)) ⟨.header, []⟩ tail := by
  induction fs generalizing p with
  | nil => exact absurd rfl hne
  | cons f fs ih =>
    rw [encodeMsg_cons, List.append_assoc, decode_encodeFrame _ f _ p (h64 f (by simp))]
    cases fs with
    | nil => simp [encodeMsg]
    | cons g gs => simp [ih (by simp) (fun x hx => h64 x (by simp [hx])) (p ++ [f])]

theorem run_encodeMsgs (ms : List (List Bytes)) (hne : ∀ m ∈ ms, m ≠ [])
    (h64 : ∀ m ∈ ms, ∀ f ∈ m, f.length < 2 ^ 64) :
    run Dec.framing (ms.map encodeMsg).flatten
      = ⟨ms.map Item.message, none, none, Dec.framing, []⟩ := by
  induction ms with
  | nil => exact run_stuck _ _ (by decide)
  | cons m ms ih =>
    simp only [List.map_cons, List.flatten_cons]
    have h := decode_encodeMsg m (hne m (by simp)) (h64 m (by simp)) [] (ms.map encodeMsg).flatten
    simp only [List.nil_append] at h
    rw [Dec.framing, run_item h]
    have := ih (fun m' hm => hne m' (by simp [hm])) (fun m' hm => h64 m' (by simp [hm]))
    rw [Dec.framing] at this
    rw [this]

end Zmq
