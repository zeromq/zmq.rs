import ZmqVerif.Lemmas.NoPanic
namespace Zmq

/-- everything a connection's read side retains -/
def Conn.retained (c : Conn) : Nat := c.buf.length + c.dec.held

def StepOut.retainedLe (o : StepOut) (bound : Nat) : Prop :=
  match o with
  | .cont d b => b.length + d.held ≤ bound
  | .item _ d b => b.length + d.held ≤ bound
  | .fail _ d b => b.length + d.held ≤ bound
  | .panic _ => True

theorem step_retained (d : Dec) (buf : Bytes) (h : ¬ buf.length < d.st.need) :
    (step d buf).retainedLe (buf.length + d.held) := by
  have hl := List.length_drop (i := d.st.need) (l := buf)
  rcases step_spec d buf h with e | ⟨d', hh, e | ⟨i, e⟩ | ⟨x, e⟩⟩ <;> rw [e] <;>
    simp only [StepOut.retainedLe] <;> omega

def DecodeOut.retainedLe (o : DecodeOut) (bound : Nat) : Prop :=
  match o with
  | .none d b => b.length + d.held ≤ bound
  | .item _ d b => b.length + d.held ≤ bound
  | .fail _ d b => b.length + d.held ≤ bound
  | .panic _ d b => b.length + d.held ≤ bound

theorem DecodeOut.retainedLe.mono {o : DecodeOut} {a b : Nat} (h : o.retainedLe a) (hab : a ≤ b) :
    o.retainedLe b := by
  cases o <;> exact Nat.le_trans h hab

theorem decode_retained (d : Dec) (buf : Bytes) :
    (decode d buf).retainedLe (buf.length + d.held) := by
  fun_induction decode d buf with
  | case1 d buf hlt => exact Nat.le_refl _
  | case2 d buf hge d1 b1 hs ih => have h1 := step_retained d buf hge; rw [hs] at h1; exact ih.mono h1
  | case3 d buf hge i d1 b1 hs => have h1 := step_retained d buf hge; rw [hs] at h1; exact h1
  | case4 d buf hge e d1 b1 hs => have h1 := step_retained d buf hge; rw [hs] at h1; exact h1
  | case5 d buf hge s hs => exact Nat.le_refl _

theorem run_retained (d : Dec) (buf : Bytes) :
    (run d buf).rest.length + (run d buf).dec.held ≤ buf.length + d.held := by
  fun_induction run d buf with
  | case1 d buf d' buf' h => have hd := decode_retained d buf; rw [h] at hd; exact hd
  | case2 d buf e d' buf' h => have hd := decode_retained d buf; rw [h] at hd; exact hd
  | case3 d buf s d' buf' h => have hd := decode_retained d buf; rw [h] at hd; exact hd
  | case4 d buf i d' buf' h r ih => have hd := decode_retained d buf; rw [h] at hd; exact Nat.le_trans ih hd

theorem Conn.feed_retained (c : Conn) (chunk : Bytes) :
    (c.feed chunk).2.retained ≤ c.retained + chunk.length := by
  unfold Conn.feed Conn.retained
  split
  · simp; omega
  · have := run_retained c.dec (c.buf ++ chunk)
    simp at this ⊢; omega

end Zmq
