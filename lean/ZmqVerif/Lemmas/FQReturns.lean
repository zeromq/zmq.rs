import ZmqVerif.Lemmas.FQProgress
/-! Every `poll_next` call returns: a variant that strictly decreases with every receiver
section, whatever the cooperative budget does (`exhausted` may be set at any point: the variant
does not mention it).  This is the termination argument of the repaired loop — the variant is
the number of queued events whose stream has NOT yet returned `Pending` in this call; before the
repair there was none (a self-waking stream was re-polled for ever: finding D17). -/
namespace Zmq.FQ

/-- queued events of streams that have not yet returned `Pending` during this call -/
def unseen (h : List (Nat × Nat)) (seen : List Nat) : Nat :=
  (h.filter (fun e => decide (e.2 ∉ seen))).length

theorem unseen_eq_countP (h : List (Nat × Nat)) (seen : List Nat) :
    unseen h seen = h.countP (fun e => decide (e.2 ∉ seen)) :=
  List.countP_eq_length_filter.symm

theorem unseen_cons (e : Nat × Nat) (h : List (Nat × Nat)) (seen : List Nat) :
    unseen (e :: h) seen = (if e.2 ∈ seen then 0 else 1) + unseen h seen := by
  by_cases hc : e.2 ∈ seen <;> simp [unseen_eq_countP, hc, Nat.add_comm]

theorem popMin_unseen {h : List (Nat × Nat)} {e rest} (seen : List Nat) (hp : popMin h = some (e, rest)) :
    unseen h seen = (if e.2 ∈ seen then 0 else 1) + unseen rest seen := by
  rw [unseen_eq_countP, (popMin_some hp).1.countP_eq, ← unseen_eq_countP, unseen_cons]

theorem unseen_mono (h : List (Nat × Nat)) (seen : List Nat) (k : Nat) :
    unseen h (k :: seen) ≤ unseen h seen := by
  rw [unseen_eq_countP, unseen_eq_countP]
  exact List.countP_mono_left fun e _ he => by
    simp only [decide_eq_true_eq] at he ⊢
    exact fun hm => he (List.mem_cons_of_mem _ hm)

theorem unseen_push_seen (h : List (Nat × Nat)) (seen : List Nat) (t k : Nat) :
    unseen ((t, k) :: h) (k :: seen) = unseen h (k :: seen) := by
  rw [unseen_cons]; simp

/-- the variant: 3 sections per unseen event, plus the position inside the current round -/
def variant (s : St) : Nat :=
  match s.pc with
  | .idle => 0
  | .parked => 0
  | .a => 3 * unseen s.heap s.seen + 1
  | .b _ _ => 3 * unseen s.heap s.seen + 3
  | .c _ _ (.some _) => 2
  | .c _ _ .none => 3 * unseen s.heap s.seen + 2
  | .c _ k .pend => 3 * unseen s.heap (k :: s.seen) + 2

theorem variant_decreases (s : St) (hi : s.pc ≠ .idle) (hpk : s.pc ≠ .parked) :
    variant (step s .recvStep) < variant s := by
  cases hp : s.pc with
  | idle => exact absurd hp hi
  | parked => exact absurd hp hpk
  | a =>
    simp only [step, doRecv, hp, doA]
    cases hpop : popMin s.heap with
    | none => simp [doAcore, hpop, variant, hp]
    | some er =>
      obtain ⟨⟨t, k⟩, rest⟩ := er
      have hu := popMin_unseen s.seen hpop
      by_cases hseen : k ∈ s.seen
      · simp [hseen, yieldNow, variant, hp]
      · by_cases hreg : s.reg k = .inMap <;> simp [hseen, doAcore, hpop, hreg, variant, hp] at hu ⊢ <;> omega
  | b t k =>
    have hm := unseen_mono s.heap s.seen k
    simp only [step, doRecv, hp, doB]
    by_cases hex : s.exhausted = true
    · simp only [hex, ↓reduceIte, doBex, fire, variant, hp, unseen_push_seen]
      omega
    · simp only [hex, Bool.false_eq_true, ↓reduceIte, doBcore]
      cases hq : (s.peer k).q with
      | cons item q' => simp [variant, hp]
      | nil => by_cases hcl : (s.peer k).closed = true <;> simp [hcl, variant, hp] <;> omega
  | c t k r => cases r <;> simp [step, doRecv, hp, doC, variant]

theorem poll_returns (s : St) :
    ∃ n, n ≤ variant s ∧ ((recvN n s).pc = .idle ∨ (recvN n s).pc = .parked) := by
  induction hv : variant s using Nat.strongRecOn generalizing s with
  | _ v ih =>
    by_cases hdone : s.pc = .idle ∨ s.pc = .parked
    · exact ⟨0, Nat.zero_le _, hdone⟩
    · have hlt := variant_decreases s (fun h => hdone (.inl h)) (fun h => hdone (.inr h))
      obtain ⟨n, hn, hfin⟩ := ih _ (hv ▸ hlt) _ rfl
      exact ⟨n + 1, by omega, hfin⟩

theorem unseen_le_length (h : List (Nat × Nat)) (seen : List Nat) : unseen h seen ≤ h.length :=
  List.length_filter_le _ _

theorem poll_returns_from_start (s : St) (hpc : s.pc = .idle ∨ s.pc = .parked) :
    ∃ n, n ≤ 3 * s.heap.length + 1 ∧
      ((recvN n (step s .pollStart)).pc = .idle ∨ (recvN n (step s .pollStart)).pc = .parked) := by
  obtain ⟨n, hn, h⟩ := poll_returns (step s .pollStart)
  refine ⟨n, Nat.le_trans hn ?_, h⟩
  rw [step_pollStart hpc]
  show 3 * unseen s.heap [] + 1 ≤ _
  have := unseen_le_length s.heap []
  omega

/-- receiver section of the ORIGINAL `poll_next`: section A never looks at `seen` -/
def doRecvOld (s : St) : St :=
  match s.pc with
  | .a => doAcore s
  | .b t k => doB s t k
  | .c _ k r => doC s k r
  | _ => s

def recvOldN : Nat → St → St
  | 0, s => s
  | n+1, s => recvOldN n (doRecvOld s)

/-- one registered stream `k`, its event queued, budget exhausted, receiver at section A -/
def Spin (t k : Nat) (s : St) : Prop :=
  s.pc = .a ∧ s.heap = [(t, k)] ∧ s.reg k = .inMap ∧ s.exhausted = true

theorem spin_round {t k : Nat} {s : St} (h : Spin t k s) : Spin t k (recvOldN 3 s) := by
  obtain ⟨hpc, hheap, hreg, hex⟩ := h
  simp [recvOldN, doRecvOld, hpc, doAcore, hheap, popMin, hreg, doB, hex, doBex, fire, doC, Spin]

theorem spin_forever {t k : Nat} (n : Nat) : ∀ {s : St}, Spin t k s → Spin t k (recvOldN (3 * n) s) := by
  induction n with
  | zero => exact id
  | succ n ih => exact fun h => ih (spin_round h)

/-- the original loop, started with `insert 1; exhaust; poll`, is still inside the same call
after any number of rounds: it never returns -/
theorem old_loop_spins (n : Nat) :
    Spin 0 1 (recvOldN (3 * n) ([Op.insert 1, .exhaust, .pollStart].foldl step {})) :=
  spin_forever n (by simp [Spin, step, doInsert, doPollStart, upd])

end Zmq.FQ
