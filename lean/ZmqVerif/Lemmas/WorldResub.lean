import ZmqVerif.Lemmas.WorldHandshakeIf
namespace Zmq.W
open Zmq

/-! # A late joiner of a SUB socket is told the whole set, then registered (C13)

The last stage of a SUB socket's handshake future (`resub`): it announces every subscription of the snapshot `todo` to the
new connection with a full `send` each (feed + flush, resumable), and only then registers the peer. -/

/-- the announcements of a list of topics, as bytes -/
def annc (ts : List Bytes) : Bytes := (ts.map (fun t => encodeMsg (subsMsg true t))).flatten

@[simp] theorem annc_nil : annc [] = [] := rfl
@[simp] theorem annc_cons (t : Bytes) (ts : List Bytes) : annc (t :: ts) = encodeMsg (subsMsg true t) ++ annc ts := by
  simp [annc]

/-- where the joiner's outgoing stream stands, by the state of the announcement in progress -/
def ResubAt (ps : Pipes) (wr : Wr) (base enc : Bytes) : Option SendSt → Prop
  | none => wr.buf = [] ∧ outOf ps wr = base
  | some st => (st = .feeding enc ∨ st = .flushing) ∧ outOf ps wr = base ++ SendSt.handed enc st

/-- what is still owed to the joiner beyond `base` -/
def owed (enc : Bytes) (cur : Option SendSt) (todo : List Bytes) : Bytes :=
  (match cur with | some _ => enc | none => []) ++ annc todo

/-- what `attachPoll_resub_spec` says of the outcome `r` of a poll, as a predicate on `r` (as `HSPost`), with the pipe,
the socket and the stream that is to be reached (`goal`) as variables: the induction hypothesis then applies as it
stands after a send has completed (`base` grows by `enc`) and when the next one starts -/
def ResubPost (sid pid : Nat) (ident : Ident) (rd : Rd) (p : Nat) (goal : Bytes) (so : Option Socket)
    (r : World × FutSt × POut) : Prop :=
  match r.2.2 with
  | .pending => ∃ todo' cur' wr' base' enc', r.2.1 = .attach sid pid (.resub ident todo' cur') rd wr' ∧
      wr'.pipe = p ∧ ResubAt r.1.pipes wr' base' enc' cur' ∧ base' ++ owed enc' cur' todo' = goal
  | .ready v => (v = .okId ident ∨ ∃ e, v = .err e) ∧
      (getSock r.1 sid = so ∨
       ∃ s' wr', getSock r.1 sid = some s' ∧ ilookup s'.peers ident = some wr' ∧ wr'.pipe = p ∧ wr'.buf = [] ∧
         (wOf r.1.pipes p).wire = goal)

theorem attachPoll_resub_post (fuel : Nat) (w : World) (sid pid : Nat) (ident : Ident) (todo : List Bytes)
    (cur : Option SendSt) (rd : Rd) (wr : Wr) (base enc : Bytes) (hat : ResubAt w.pipes wr base enc cur)
    (p : Nat) (hp : wr.pipe = p) (goal : Bytes) (hgoal : base ++ owed enc cur todo = goal) (so : Option Socket)
    (hso : getSock w sid = so) :
    ResubPost sid pid ident rd p goal so (attachPoll fuel w sid pid (.resub ident todo cur) rd wr) := by
  induction fuel generalizing w todo cur wr base enc with
  | zero => exact ⟨todo, cur, wr, base, enc, rfl, hp, hat, hgoal⟩
  | succ fuel ih =>
    cases so with
    | none =>
      simp only [attachPoll, hso]
      exact ⟨.inr ⟨_, rfl⟩, .inl hso⟩
    | some s =>
      simp only [attachPoll, hso]
      cases cur with
      | some st =>
        obtain ⟨h1, h2, h3, h4⟩ := wrSendPoll_spec w.pipes wr base enc st hat.1 hat.2
        rcases hw : wrSendPoll w.pipes wr st with ⟨ps1, wr1, st1, r⟩
        simp only [hw] at h1 h2 h3 h4 ⊢
        cases r with
        | pending => exact ⟨todo, some st1, wr1, base, enc, rfl, h1.trans hp, ⟨h2, h3⟩, hgoal⟩
        | error => exact ⟨.inl rfl, .inl hso⟩
        | done =>
          obtain ⟨hb, hwire⟩ := h4 rfl
          refine ih { w with pipes := ps1 } todo none wr1 (base ++ enc) enc ⟨hb, ?_⟩ (h1.trans hp)
            (by simpa [owed] using hgoal) hso
          simpa only [outOf, hb, List.append_nil, h1] using hwire
      | none =>
        cases todo with
        | cons t rest =>
          exact ih w rest (some (.feeding _)) wr base (encodeMsg (subsMsg true t))
            ⟨.inl rfl, by simp [SendSt.handed, hat.2]⟩ hp (by simpa [owed] using hgoal) hso
        | nil =>
          by_cases hd : s.dead = true
          · simp only [hd, if_true]
            exact ⟨.inl rfl, .inl hso⟩
          · simp only [hd]
            refine ⟨.inl rfl, .inr ⟨_, wr, getSock_setSock_same _ _ _, register_peers _ _ _ _ _, hp, hat.1, ?_⟩⟩
            have hwire : (wOf w.pipes p).wire = base := by
              have := hat.2
              simpa only [outOf, hat.1, List.append_nil, hp, wOf] using this
            simpa [setSock_pipes, (register_released _ _ _ _ _).w, owed, hwire] using hgoal

/-- **Every poll of the re-announcement stage.**  If the poll stays `Pending`, the future is again in this stage, for the
same identity and pipe, and what is owed beyond the new base is what was owed before minus what has been handed over —
nothing skipped, nothing repeated.
If it completes — with `Ok(ident)`, or with an error when the socket is no longer there — EITHER the socket is untouched
(the connection failed during the announcement, or the socket is gone: the joiner is dropped unregistered) OR the joiner
has been registered under `ident` with an empty write buffer and its connection carries `base` followed by EVERYTHING
that was owed: the announcement in progress and one announcement per topic of the snapshot, in order, each whole, each
once. -/
theorem attachPoll_resub_spec (fuel : Nat) (w : World) (sid pid : Nat) (ident : Ident) (todo : List Bytes)
    (cur : Option SendSt) (rd : Rd) (wr : Wr) (base enc : Bytes) (hat : ResubAt w.pipes wr base enc cur)
    (w' : World) (f' : FutSt) (o : POut)
    (h : attachPoll fuel w sid pid (.resub ident todo cur) rd wr = (w', f', o)) :
    (o = .pending → ∃ todo' cur' wr' base' enc', f' = .attach sid pid (.resub ident todo' cur') rd wr' ∧
        wr'.pipe = wr.pipe ∧ ResubAt w'.pipes wr' base' enc' cur' ∧
        base' ++ owed enc' cur' todo' = base ++ owed enc cur todo) ∧
    (∀ v, o = .ready v → (v = .okId ident ∨ ∃ e, v = .err e) ∧
        (getSock w' sid = getSock w sid ∨
         ∃ s' wr', getSock w' sid = some s' ∧ ilookup s'.peers ident = some wr' ∧ wr'.pipe = wr.pipe ∧ wr'.buf = [] ∧
           (wOf w'.pipes wr.pipe).wire = base ++ owed enc cur todo)) := by
  have := attachPoll_resub_post fuel w sid pid ident todo cur rd wr base enc hat _ rfl _ rfl _ rfl
  rw [h] at this
  cases o with
  | pending => exact ⟨fun _ => this, nofun⟩
  | ready v => exact ⟨nofun, fun _ hv => by cases hv; exact this⟩

theorem attachPoll_resub_free (todo : List Bytes) (n : Nat) (w : World) (sid pid : Nat) (ident : Ident) (rd : Rd) (wr : Wr)
    (s : Socket) (hs : getSock w sid = some s) (halive : s.dead = false) (hb : wr.buf = []) (hfree : Free w.pipes wr.pipe) :
    ∃ w' s' wr', attachPoll (n + 2 * todo.length + 1) w sid pid (.resub ident todo none) rd wr = (w', .done, .ready (.okId ident)) ∧
      getSock w' sid = some s' ∧ ilookup s'.peers ident = some wr' ∧ wr'.pipe = wr.pipe ∧ wr'.buf = [] ∧
      (wOf w'.pipes wr.pipe).wire = (wOf w.pipes wr.pipe).wire ++ annc todo := by
  induction todo generalizing w wr with
  | nil =>
    refine ⟨_, _, wr, by simp only [attachPoll, hs, halive]; rfl, getSock_setSock_same _ _ _, register_peers _ _ _ _ _,
      rfl, hb, ?_⟩
    simp only [setSock_pipes, (register_released _ _ _ _ _).w, annc_nil, List.append_nil]
  | cons t rest ih =>
    -- two steps of the poll per topic: start its `send`, which the free connection takes whole
    obtain ⟨ps1, wr1, h1, h2, h3, h4, -, -, -, e⟩ :=
      attachPoll_send_free (n + 2 * rest.length + 1) w sid pid rd wr s (encodeMsg (subsMsg true t)) hs hb hfree
    obtain ⟨w', s', wr', e1, e2, e3, e4, e5, e6⟩ := ih { w with pipes := ps1 } wr1 hs h2 (h1 ▸ h3)
    refine ⟨w', s', wr', ?_, e2, e3, e4.trans h1, e5, ?_⟩
    · rw [← e1, ← e, List.length_cons, show n + 2 * (rest.length + 1) + 1 = n + 2 * rest.length + 1 + 1 + 1 by omega]
      simp only [attachPoll, hs]
    · rw [h1] at e6
      rw [e6, h4, annc_cons, List.append_assoc]

/-- **A SUB socket's handshake completes when everything is there — and the joiner has been told the whole set.**  As
`attachPoll_completes`, for SUB: ONE poll completes with `Ok(ident)`, the peer is registered, and behind the socket's
greeting and READY its connection carries one announcement per subscription active at that moment, in order. -/
theorem attachPoll_completes_sub (n : Nat) (w : World) (sid pid : Nat) (rd : Rd) (wr : Wr) (s : Socket) (encG : Bytes)
    (hs : getSock w sid = some s) (hsub : s.typ = .sub) (halive : s.dead = false)
    (hb : wr.buf = []) (hfree : Free w.pipes wr.pipe)
    (g : Greeting) (props : List (Bytes × Bytes)) (rest : List Item)
    (hitems : rd.items w.pipes = .greeting g :: .command props :: rest) (hv : vOk g)
    (ident : Ident) (fresh' : Nat) (hadm : admitPeer s.typ props w.fresh = .ok (ident, fresh')) :
    ∃ w' s' wr', attachPoll (n + 2 * s.subs.length + 5) w sid pid (.sendGreeting (.feeding encG)) rd wr
        = (w', .done, .ready (.okId ident)) ∧
      getSock w' sid = some s' ∧ ilookup s'.peers ident = some wr' ∧ wr'.pipe = wr.pipe ∧ wr'.buf = [] ∧
      (wOf w'.pipes wr.pipe).wire =
        (wOf w.pipes wr.pipe).wire ++ encG ++ encodeReady s.typ s.ident false ++ annc s.subs := by
  obtain ⟨psC, rdB, wrC, e, hitC, hC1, hC2, hC3, hC4⟩ :=
    attachPoll_to_readReady (n + 2 * s.subs.length + 2) w sid pid rd wr s encG hs hb hfree g _ hitems hv
  obtain ⟨psD, rdD, hwD, e2⟩ :=
    attachPoll_readReady (n + 2 * s.subs.length + 1) { w with pipes := psC } sid pid rdB wrC s hs props rest hitC
  -- `hadm` first: `hsub` would rewrite the `s.typ` inside it
  simp only [show admitPeer s.typ props w.fresh = _ from hadm] at e2
  simp only [hsub, if_true] at e2
  obtain ⟨w', s', wr', e3, f1, f2, f3, f4, f5⟩ :=
    attachPoll_resub_free s.subs n { w with pipes := psD, fresh := fresh' } sid pid ident rdD wrC s hs halive hC2
      (hC1 ▸ hC3.congr (hwD _))
  rw [hC1] at f3 f5
  exact ⟨w', s', wr', by rw [e, e2, e3], f1, f2, f3, f4, by rw [f5]; show (wOf psD _).wire ++ _ = _; rw [hwD, hC4]⟩

end Zmq.W
