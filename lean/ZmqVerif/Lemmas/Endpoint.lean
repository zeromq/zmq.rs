import ZmqVerif.Spec.EndpointGrammar
import ZmqVerif.Lemmas.Radix
/-! `parseEndpoint` accepts exactly the grammar `EndpointOk` (`parse_sound`, `parse_complete`); the
round trip through `display` follows from that and from what `Laws` assumes of `std::net`: the text
`display` prints is again in the grammar, and its host is classified as before. -/
namespace Zmq.Ep
open Zmq.Ip

theorem splitLastColon_append (a b : Str) (hb : ':' ∉ b) : splitLastColon (a ++ ':' :: b) = some (a, b) := by
  have hnone : splitLastColon b = none := by
    induction b with
    | nil => rfl
    | cons c cs ih =>
      simp at hb
      simp [splitLastColon, ih hb.2]
      exact fun h => hb.1 h.symm
  induction a with
  | nil => simp [splitLastColon, hnone]
  | cons c cs ih => simp [splitLastColon, ih]

theorem splitLastColon_eq {s a b : Str} (h : splitLastColon s = some (a, b)) : s = a ++ ':' :: b := by
  induction s generalizing a b with
  | nil => simp [splitLastColon] at h
  | cons c cs ih =>
    simp only [splitLastColon] at h
    split at h
    · rename_i a' b' hr
      simp at h; obtain ⟨rfl, rfl⟩ := h
      simp [ih hr]
    · split at h
      · rename_i hc; simp at h; obtain ⟨rfl, rfl⟩ := h; simp [hc]
      · simp at h

theorem parsePort_iff {ps : Str} {v : Nat} :
    parsePort ps = some v ↔ ps ≠ [] ∧ (∀ c ∈ ps, isDigit c = true) ∧ digitsVal ps ≤ 65535 ∧ v = digitsVal ps := by
  simp only [parsePort, List.all_eq_true]
  split
  · rename_i h
    split <;> rename_i hv
    · exact ⟨fun e => ⟨h.1, h.2, hv, (Option.some.inj e).symm⟩, fun e => e.2.2.2 ▸ rfl⟩
    · simp [hv]
  · rename_i h
    simp only [reduceCtorEq, false_iff]
    exact fun h' => h ⟨h'.1, h'.2.1⟩

theorem digitsVal_showNat (n : Nat) : digitsVal (showNat n) = n := by
  rw [showNat_eq]
  exact showR_foldl (by omega) (by decide) _ _ (by omega)

theorem showNat_digits (n : Nat) : ∀ c ∈ showNat n, isDigit c = true :=
  List.all_eq_true.1 (showNat_all (by decide) n)

theorem parsePort_showNat (n : Nat) (h : n ≤ 65535) : parsePort (showNat n) = some n :=
  parsePort_iff.2 ⟨showNat_ne n, showNat_digits n, by rwa [digitsVal_showNat], (digitsVal_showNat n).symm⟩

theorem isDigit_not_colon (c : Char) (h : isDigit c = true) : c ≠ ':' ∧ c ≠ '\n' := by
  constructor <;> (intro e; subst e; revert h; decide)

/-! ### what the round trip needs of the IP text model (proved of `stdModel` in `Lemmas.Ip6Laws`; that `stdModel` is
`std::net` is sampled against the real std) -/

structure Laws (m : IpModel) : Prop where
  rt4 : ∀ a, m.parse4 (m.show4 a) = some a
  rt6 : ∀ a, m.parse6 (m.show6 a) = some a
  chars4 : ∀ s a, m.parse4 s = some a → ∀ c ∈ s, isDigit c = true ∨ c = '.'
  show4_ne : ∀ a, m.show4 a ≠ []
  show6_len : ∀ a, 2 ≤ (m.show6 a).length
  show6_clean : ∀ a, '\n' ∉ m.show6 a

theorem parse_sound {m : IpModel} {s : Str} {e : Endpoint m}
    (hp : parseEndpoint m s = .ok e) : EndpointOk m s e := by
  have hs : s = s.takeWhile isLower ++ s.dropWhile isLower := List.takeWhile_append_dropWhile.symm
  unfold parseEndpoint at hp
  simp only at hp
  generalize s.takeWhile isLower = scheme at hs hp
  generalize s.dropWhile isLower = rest at hs hp
  subst hs
  split at hp
  · cases hp
  split at hp
  case h_2 => cases hp
  rename_i addr
  split at hp
  · cases hp
  rename_i haddr
  have hne : addr ≠ [] := fun e => haddr (.inl e)
  have hnl : '\n' ∉ addr := fun hm => haddr (.inr (by simpa using hm))
  split at hp
  · rename_i htcp
    split at hp
    · cases hp
    rename_i hh p hsplit
    split at hp
    · cases hp
    rename_i hhne
    split at hp
    · cases hp
    rename_i port hport
    cases hp
    obtain rfl := splitLastColon_eq hsplit
    obtain ⟨pne, pdig, pval, rfl⟩ := parsePort_iff.1 hport
    simpa [htcp] using EndpointOk.tcp (m := m) hh p hhne (fun hm => hnl (by simp [hm])) pne pdig pval
  · split at hp
    · rename_i hipc
      cases hp
      simpa [hipc] using EndpointOk.ipc (m := m) addr hne hnl
    · cases hp

theorem parse_complete {m : IpModel} {s : Str} {e : Endpoint m}
    (h : EndpointOk m s e) : parseEndpoint m s = .ok e := by
  cases h with
  | tcp hh ps hne hnl pne pdig pval =>
    have hpc : ':' ∉ ps := fun hm => (isDigit_not_colon _ (pdig _ hm)).1 rfl
    have hpn : '\n' ∉ ps := fun hm => (isDigit_not_colon _ (pdig _ hm)).2 rfl
    simp [parseEndpoint, isLower, hnl, hpn, splitLastColon_append hh ps hpc, hne,
      parsePort_iff.2 ⟨pne, pdig, pval, rfl⟩]
  | ipc path hne hnl => simp [parseEndpoint, isLower, hne, hnl]

def hostText (m : IpModel) : Host m → Str
  | .v6 a => '[' :: (m.show6 a ++ [']'])
  | h => showHost m h

theorem display_tcp (m : IpModel) (h : Host m) (port : Nat) :
    display m (.tcp h port) = ['t','c','p',':','/','/'] ++ hostText m h ++ [':'] ++ showNat port := by
  cases h <;> simp [display, hostText]

theorem utf8Len_ge (s : Str) : s.length ≤ utf8Len s := by
  suffices ∀ n, n + s.length ≤ s.foldl (fun n c => n + c.utf8Size) n by simpa [utf8Len] using this 0
  induction s with
  | nil => simp
  | cons c cs ih =>
    intro n
    have := ih (n + c.utf8Size)
    have := c.utf8Size_pos
    simp only [List.foldl_cons, List.length_cons]
    omega

theorem parseHost_bracketed {m : IpModel} (L : Laws m) (a : m.Ip6) :
    parseHost m ('[' :: (m.show6 a ++ [']'])) = .v6 a := by
  have hlen := L.show6_len a
  have hp4 : m.parse4 ('[' :: (m.show6 a ++ [']'])) = none := by
    cases hh : m.parse4 ('[' :: (m.show6 a ++ [']'])) with
    | none => rfl
    | some b => exact absurd (L.chars4 _ b hh '[' (by simp)) (by decide)
  have hu : 4 ≤ utf8Len ('[' :: (m.show6 a ++ [']'])) := by
    have := utf8Len_ge ('[' :: (m.show6 a ++ [']'])); simp at this; omega
  have hlast : ('[' :: (m.show6 a ++ [']'])).getLast? = some ']' := by
    rw [← List.cons_append, List.getLast?_concat]
  simp [parseHost, hp4, bracketed, hu, hlast, L.rt6]

theorem hostText_parseHost {m : IpModel} (L : Laws m) {hs : Str} (hne : hs ≠ []) (hnl : '\n' ∉ hs) :
    hostText m (parseHost m hs) ≠ [] ∧ '\n' ∉ hostText m (parseHost m hs) ∧
      parseHost m (hostText m (parseHost m hs)) = parseHost m hs := by
  cases h4 : m.parse4 hs with
  | some a =>
    rw [show parseHost m hs = .v4 a by simp [parseHost, h4]]
    refine ⟨L.show4_ne a, fun hmem => ?_, by simp [hostText, showHost, parseHost, L.rt4]⟩
    rcases L.chars4 _ a (L.rt4 a) _ hmem with hd | hd
    · exact (isDigit_not_colon _ hd).2 rfl
    · exact absurd hd (by decide)
  | none =>
    cases h6 : m.parse6 (if bracketed hs then (hs.drop 1).dropLast else hs) with
    | some a =>
      rw [show parseHost m hs = .v6 a by simp only [parseHost, h4, h6]]
      exact ⟨by simp [hostText], by simpa [hostText] using L.show6_clean a, parseHost_bracketed L a⟩
    | none =>
      have e : parseHost m hs = .domain hs := by simp only [parseHost, h4, h6]
      rw [e]
      exact ⟨hne, hnl, e⟩

theorem roundtrip (m : IpModel) (L : Laws m) (s : Str) (e : Endpoint m)
    (hp : parseEndpoint m s = .ok e) : parseEndpoint m (display m e) = .ok e := by
  cases parse_sound hp with
  | ipc path hne hnl => exact parse_complete (.ipc path hne hnl)
  | tcp hs ps hne hnl pne pdig pval =>
    obtain ⟨h1, h2, h3⟩ := hostText_parseHost L hne hnl
    have := parse_complete (EndpointOk.tcp (m := m) _ _ h1 h2 (showNat_ne (digitsVal ps))
      (showNat_digits _) (by rwa [digitsVal_showNat]))
    rw [display_tcp, this, h3, digitsVal_showNat]

end Zmq.Ep
