import ZmqVerif.Lemmas.FQProgress
/-! WHICH waker is woken: the queue publishes the waker of the call in progress on every turn
of section A, so a wake-up always goes to the most recent caller — never to the waker left
behind by an earlier, abandoned call made from another task. -/
namespace Zmq.FQ

/-- once the receiver is past section A (checked out a stream, or parked), the published waker
is the one the current / last `poll_next` call was made with -/
def PubCur (s : St) : Prop := s.pc ≠ .idle → s.pc ≠ .a → s.pubW = s.polledW

theorem pubCur_init : PubCur ({} : St) := by intro h; simp at h

theorem pubCur_step (s : St) (op : Op) (h : PubCur s) : PubCur (step s op) := by
  have tr := step_tr s op
  generalize step s op = s' at tr ⊢
  cases tr with
  | skip | insert | remove | feed | feedFire | exhaust | setWaker => exact h
  | park | yield | checkout => exact fun _ _ => rfl
  | pollStart | drop | putBack => exact fun _ ha => absurd rfl ha
  | deliver => exact fun hi _ => absurd rfl hi
  | stale _ _ _ hpc => exact fun _ ha => absurd hpc ha
  | selfWake _ _ hpc | item _ _ _ _ hpc | eof _ _ hpc | arm _ _ hpc =>
    exact fun _ _ => h (by rw [hpc]; nofun) (by rw [hpc]; nofun)

theorem reachable_pubCur (ops : List Op) : PubCur (ops.foldl step {}) :=
  List.foldl_inv pubCur_step ops pubCur_init

/-- **the wake-up goes to the latest caller**: the waker that is woken is the one the last
`poll_next` call was made with -/
theorem wake_latest_on_arrive (s : St) (hinv : Inv s) (hpub : PubCur s) (hp : s.pc = .parked)
    (hn : s.notified = false) (k item : Nat) (hreg : s.reg k = .inMap) :
    (step s (.arrive k item)).woken = s.woken ++ [s.polledW] := by
  rw [(wake_on_arrive s hinv hp hn k item hreg).2.2, hpub (by rw [hp]; nofun) (by rw [hp]; nofun)]

theorem wake_latest_on_insert (s : St) (hinv : Inv s) (hpub : PubCur s) (hp : s.pc = .parked)
    (hn : s.notified = false) (k : Nat) (hreg : s.reg k = .absent) :
    (step s (.insert k)).woken = s.woken ++ [s.polledW] := by
  rw [(wake_on_insert s hinv hp hn k hreg).2.2, hpub (by rw [hp]; nofun) (by rw [hp]; nofun)]

end Zmq.FQ
