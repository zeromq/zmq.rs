import ZmqVerif.Lemmas.WorldHandshake
namespace Zmq.W
open Zmq

/-! # The reading stages of the handshake when the item they wait for is there (C04, the "if" direction)

`HS` (Lemmas/WorldHandshake) gives "only if": `Ok(identity)` implies an acceptable greeting and an admissible READY at the
head of the connection's byte stream.  Here: once the rest of the connection's byte stream begins with a complete item
(`readerPoll_item`), the poll of a reading stage does not stay `Pending`, and what it does is an equation — for the
stage that waits for the peer's READY it decides exactly as `admitPeer` says. -/

/-- what `failWith` leaves behind -/
abbrev attachFail (w : World) (rd : Rd) (wr : Wr) (e : Err) : World × FutSt × POut :=
  ({ w with pipes := dropW (dropR w.pipes rd.pipe) wr.pipe }, .done, .ready (.err e))

/-- **The poll that reads the peer's greeting**, with a complete item at the head of the connection's byte stream (in
whatever segmentation it arrived). -/
theorem attachPoll_readGreeting (fuel : Nat) (w : World) (sid pid : Nat) (rd : Rd) (wr : Wr) (s : Socket)
    (hs : getSock w sid = some s) (i : Item) (rest : List Item) (hitems : rd.items w.pipes = i :: rest) :
    ∃ ps' rd', rd'.items ps' = rest ∧ (∀ j, wOf ps' j = wOf w.pipes j) ∧
      attachPoll (fuel + 1) w sid pid .readGreeting rd wr =
        match i with
        | .greeting g =>
          if g.major.toNat > 3 ∨ (g.major.toNat = 3 ∧ g.minor.toNat ≥ 0) then
            attachPoll fuel { w with pipes := ps' } sid pid (.sendReady (.feeding (encodeReady s.typ s.ident false))) rd' wr
          else attachFail { w with pipes := ps' } rd wr .unsupportedVersion
        | _ => attachFail { w with pipes := ps' } rd wr .other := by
  obtain ⟨ps', rd', hr, -, hrest, hw⟩ := readerPoll_item .user hitems
  refine ⟨ps', rd', hrest, hw, ?_⟩
  simp only [attachPoll, hs, hr]
  cases i <;> rfl

/-- **The deciding poll**, with a complete READY carrying `props` at the head of the connection's byte stream. -/
theorem attachPoll_readReady (fuel : Nat) (w : World) (sid pid : Nat) (rd : Rd) (wr : Wr) (s : Socket)
    (hs : getSock w sid = some s) (props : Props) (rest : List Item) (hitems : rd.items w.pipes = .command props :: rest) :
    ∃ ps' rd', (∀ j, wOf ps' j = wOf w.pipes j) ∧
      attachPoll (fuel + 1) w sid pid .readReady rd wr =
        match admitPeer s.typ props w.fresh with
        | .error e => attachFail { w with pipes := ps' } rd wr e
        | .ok (ident, fresh') =>
          if s.typ = .sub then
            attachPoll fuel { w with pipes := ps', fresh := fresh' } sid pid (.resub ident s.subs none) rd' wr
          else if s.dead then
            ({ w with pipes := dropW (dropR ps' rd'.pipe) wr.pipe, fresh := fresh' }, .done, .ready (.okId ident))
          else
            (setSock { w with pipes := (register ps' s ident rd' wr).1, fresh := fresh' } sid (register ps' s ident rd' wr).2,
              .done, .ready (.okId ident)) := by
  obtain ⟨ps', rd', hr, -, -, hw⟩ := readerPoll_item .user hitems
  refine ⟨ps', rd', hw, ?_⟩
  simp only [attachPoll, hs, hr]
  rfl

/-- **The deciding poll.**  The handshake future is waiting for the peer's READY (`readReady`) and the rest of the
connection's byte stream begins with a complete command carrying `props` (in whatever segmentation it arrived).  Then
this poll does not stay `Pending`: if `admitPeer` refuses `props` the future fails with exactly that error; if it
admits them under `ident` then — for every socket type but SUB, whose registration first announces its subscriptions —
the future completes with `Ok(ident)` and (the socket being alive) the peer IS in the socket's peer table under
`ident`, with this connection's write half. -/
theorem attachPoll_readReady_decides (fuel : Nat) (w : World) (sid pid : Nat) (rd : Rd) (wr : Wr) (s : Socket)
    (hs : getSock w sid = some s) (props : List (Bytes × Bytes)) (rest : List Item)
    (hitems : rd.items w.pipes = .command props :: rest) (w' : World) (f' : FutSt) (o : POut)
    (h : attachPoll (fuel + 1) w sid pid .readReady rd wr = (w', f', o)) :
    match (generalizing := false) admitPeer s.typ props w.fresh with
    | .error e => o = .ready (.err e) ∧ f' = .done
    | .ok (ident, _) =>
        s.typ ≠ .sub → o = .ready (.okId ident) ∧ f' = .done ∧
          (s.dead = false → ∃ s', getSock w' sid = some s' ∧ ilookup s'.peers ident = some wr) := by
  obtain ⟨ps', rd', -, e⟩ := attachPoll_readReady fuel w sid pid rd wr s hs props rest hitems
  rw [h] at e
  split <;> rename_i ha <;> simp only [ha] at e
  · cases e; exact ⟨rfl, rfl⟩
  · intro hsub
    by_cases hd : s.dead = true
    · simp only [hsub, hd, if_false, if_true] at e
      cases e
      exact ⟨rfl, rfl, fun hf => by rw [hd] at hf; cases hf⟩
    · simp only [hsub, hd, if_false] at e
      cases e
      exact ⟨rfl, rfl, fun _ => ⟨_, getSock_setSock_same _ _ _, register_peers _ _ _ _ _⟩⟩

end Zmq.W
