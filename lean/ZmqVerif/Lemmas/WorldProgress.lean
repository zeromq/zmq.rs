import ZmqVerif.Lemmas.WorldRecv
/-! The no-lost-wake-up side of the socket-level queue (C06): re-registering a key always queues an event, and an
event queued for a connection whose byte stream holds a complete item means `poll_next` does not return `Pending`. -/
namespace Zmq.W
open Zmq

theorem popMinE_none {h : List (Nat × Ident)} (hp : popMinE h = none) : h = [] := by
  cases h with
  | nil => rfl
  | cons e es =>
    simp only [popMinE] at hp
    split at hp
    · cases hp
    · split at hp <;> cases hp

theorem popMinE_perm {h rest : List (Nat × Ident)} {e : Nat × Ident} (hp : popMinE h = some (e, rest)) :
    h.Perm (e :: rest) := by
  induction h generalizing e rest with
  | nil => cases hp
  | cons x xs ih =>
    simp only [popMinE] at hp
    split at hp
    · rename_i hn
      cases hp
      rw [popMinE_none hn]
    · rename_i m r hm
      split at hp <;> cases hp
      · exact .refl _
      · exact ((ih hm).cons x).trans (.swap ..)

theorem popMinE_other {h rest : List (Nat × Ident)} {t t' : Nat} {k k' : Ident}
    (hp : popMinE h = some ((t', k'), rest)) (hev : (t, k) ∈ h) (hne : k ≠ k') :
    (t, k) ∈ rest ∧ rest.length + 1 = h.length := by
  have hperm := popMinE_perm hp
  refine ⟨?_, by rw [hperm.length_eq, List.length_cons]⟩
  rcases List.mem_cons.mp (hperm.mem_iff.mp hev) with e | e
  · cases e; exact (hne rfl).elim
  · exact e

/-- `QueueInner::insert` under a key that may already be registered: an event for the key is ALWAYS queued,
whatever the old stream's state was (parked with an armed waker, queued, never polled) -/
theorem fqInsert_queued (s : Socket) (k : Ident) (rd : Rd) :
    ilookup (fqInsert s k rd).fqStreams k = some rd ∧
    (s.fqCounter, k) ∈ (fqInsert s k rd).fqHeap ∧
    (fqInsert s k rd).fqCounter = s.fqCounter + 1 ∧
    ∀ j, j ≠ k → ilookup (fqInsert s k rd).fqStreams j = ilookup s.fqStreams j := by
  refine ⟨ilookup_iinsert_same _ _ _, by simp [fqInsert], rfl, fun j hj => ilookup_iinsert_other _ _ _ _ hj⟩

/-- with an event queued, a turn of `fqPoll` pops the least one (the situation of a peer that reconnects under
its key before its old connection's end was seen) -/
theorem fqPoll_pops (fuel : Nat) (ps : Pipes) (sid : Nat) (s : Socket) (hne : s.fqHeap ≠ []) :
    ∃ e rest, popMinE s.fqHeap = some (e, rest) ∧
      fqPoll (fuel + 1) ps sid s =
        (match ilookup s.fqStreams e.2 with
         | none => fqPoll fuel ps sid { s with fqHeap := rest }
         | some rd =>
           let s1 := { s with fqHeap := rest, fqStreams := ierase s.fqStreams e.2 }
           match readerPoll (readFuel ps rd) ps rd (.fq sid e.1 e.2) with
           | (.pending, ps, rd) => fqPoll fuel ps sid { s1 with fqStreams := s1.fqStreams ++ [(e.2, rd)] }
           | (.eof, ps, rd) =>
             let r := peerDisconnected (dropR ps rd.pipe) s1 e.2
             fqPoll fuel r.1 sid r.2
           | (res, ps, rd) =>
             (.got e.2 res, ps, { s1 with fqHeap := (s1.fqCounter, e.2) :: s1.fqHeap, fqCounter := s1.fqCounter + 1,
                                          fqStreams := s1.fqStreams ++ [(e.2, rd)] })) := by
  cases hp : popMinE s.fqHeap with
  | none => exact (hne (popMinE_none hp)).elim
  | some er =>
    obtain ⟨⟨t, k⟩, rest⟩ := er
    refine ⟨(t, k), rest, rfl, ?_⟩
    rw [fqPoll]
    simp only [hp]
    cases ilookup s.fqStreams k with
    | none => rfl
    | some rd =>
      simp only
      rcases readerPoll (readFuel ps rd) ps rd (.fq sid t k) with ⟨r, ps', rd'⟩
      cases r <;> rfl

/-- **No lost wake-up at socket level.**  If an event is queued for a registered connection whose byte
stream holds a complete item, a call of the fair queue's `poll_next` does not return `Pending`: it
delivers an item (of that connection, or of one served before it) or reports an error — whatever
else is queued (stale events, connections that are `Pending`, connections that have ended). -/
theorem fqPoll_progress (fuel : Nat) (ps : Pipes) (sid : Nat) (s : Socket) (hpd : PD s.fqStreams)
    (k : Ident) (rd : Rd) (t : Nat) (hk : ilookup s.fqStreams k = some rd) (hev : (t, k) ∈ s.fqHeap)
    (hit : rd.items ps ≠ []) (hfuel : s.fqHeap.length < fuel) :
    ∃ k' r, (fqPoll fuel ps sid s).1 = .got k' r := by
  revert rd hpd
  fun_induction fqPoll fuel ps sid s
  case case1 => omega
  case case2 s hpop => rw [popMinE_none hpop] at hev; cases hev
  case case3 ps sid s t' k' rest hpop s1 hl ih =>
    -- a stale event: not `k`'s, which is registered
    intro hpd rd hk hit
    have hkk : k ≠ k' := fun e => by subst e; rw [hk] at hl; cases hl
    obtain ⟨hrest, hlen⟩ := popMinE_other hpop hev hkk
    exact ih hrest (by simp only [s1]; omega) hpd rd hk hit
  case case4 ps sid s t' k' rest hpop s1 rd' hl s2 ps0 rd0 hrp ih =>
    intro hpd rd hk hit
    have hrd := Step.reader hpd hl (readFuel_ok ps rd') hrp
    by_cases hkk : k = k'
    · -- `k`'s own stream cannot be `Pending`: it holds a complete item
      subst hkk
      cases hl.symm.trans hk
      exact (hit (readerPoll_spec _ ps _ _ (readFuel_ok _ _) _ ps0 rd0 hrp).2.2.2).elim
    · obtain ⟨hrest, hlen⟩ := popMinE_other hpop hev hkk
      obtain ⟨rd1, hk1, hit1⟩ := hrd.survives hk hit
      exact ih hrest (by simp only [s2, s1]; omega) (hrd.pd hpd) rd1 hk1 hit1
  case case5 ps sid s t' k' rest hpop s1 rd' hl s2 ps0 rd0 ps2 s3 hforget hrp ih =>
    intro hpd rd hk hit
    have hrd := Step.reader hpd hl (readFuel_ok ps rd') hrp
    by_cases hkk : k = k'
    · -- nor can it have ended
      subst hkk
      exact (hit (hrd.gone k rd hk (ilookup_ierase_same _ _))).elim
    · obtain ⟨hrest, hlen⟩ := popMinE_other hpop hev hkk
      obtain ⟨rfl, rfl⟩ := Prod.ext_iff.mp hforget
      have total := Step.stream_end (s2 := s2) rd0.pipe hrd rfl
      obtain ⟨rd1, hk1, hit1⟩ := total.survives hk hit
      exact ih (by rw [peerDisconnected_eq]; exact hrest) (by rw [peerDisconnected_eq]; simp only [s2, s1]; omega)
        (total.pd hpd) rd1 hk1 hit1
  case case6 => exact fun _ _ _ _ => ⟨_, _, rfl⟩

end Zmq.W
