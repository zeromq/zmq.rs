import ZmqVerif.Lemmas.Radix
/-! The `std::net` laws that `C19_roundtrip` needs, proved for the executable IP text models of
`Model.Ip`, except the IPv6 round trip (`Lemmas.Ip6Laws`). -/
namespace Zmq.Ip

theorem char_le_iff (a b : Char) : a ≤ b ↔ a.toNat ≤ b.toNat := by
  rw [Char.le_def, UInt32.le_iff_toNat_le]; rfl

theorem isDigit_of_isDig10 {c : Char} (h : isDig 10 c = true) : isDigit c = true := by
  by_cases h1 : '0' ≤ c ∧ c ≤ '9'
  · simp [isDigit, h1]
  · have ha : 'a' ≤ c → 97 ≤ c.toNat := (char_le_iff _ _).1
    have hA : 'A' ≤ c → 65 ≤ c.toNat := (char_le_iff _ _).1
    simp only [isDig, digVal, hexVal, h1, ↓reduceIte] at h
    by_cases h2 : 'a' ≤ c ∧ c ≤ 'f'
    · have := ha h2.1
      simp only [h2, and_self, ↓reduceIte] at h
      split at h <;> simp at h; omega
    · by_cases h3 : 'A' ≤ c ∧ c ≤ 'F'
      · have := hA h3.1
        simp only [h2, h3, and_self, ↓reduceIte] at h
        split at h <;> simp at h; omega
      · simp [h2, h3] at h

theorem stops_dot (r : Str) : Stops (isDig 10) ('.' :: r) := fun c hc => by cases hc; decide

def v4text (a b c d : Nat) : Str :=
  showNat a ++ '.' :: (showNat b ++ '.' :: (showNat c ++ '.' :: showNat d))

theorem readIpv4_show {a b c d : Nat} (ha : a < 256) (hb : b < 256) (hc : c < 256) (hd : d < 256) :
    readIpv4 (v4text a b c d) = some ([a, b, c, d], []) := by
  have hd' := readOctet hd (stops_nil _)
  rw [List.append_nil] at hd'
  simp only [v4text, readIpv4, readOctet ha (stops_dot _), readOctet hb (stops_dot _),
    readOctet hc (stops_dot _), hd']

/-- `Ipv4Addr::from_str(addr.to_string()) == Ok(addr)` -/
theorem rt4 (x : Ip4) : parse4 (show4 x) = some x := by
  have ht : show4 x = v4text x.a.toNat x.b.toNat x.c.toNat x.d.toNat := by simp [show4, v4text]
  simp [parse4, ht, readIpv4_show x.a.toNat_lt x.b.toNat_lt x.c.toNat_lt x.d.toNat_lt]

def isV4Char (c : Char) : Bool := isDigit c || c == '.'

theorem octet_chars {s : Str} {v : Nat} {rest : Str} (h : readNumber 10 3 256 false s = some (v, rest)) :
    ∃ ds, s = ds ++ rest ∧ ds.all isV4Char = true :=
  ⟨s.takeWhile (isDig 10), by rw [readNumber_rest h, List.takeWhile_append_dropWhile],
    List.all_eq_true.2 fun c hc => by
      simp [isV4Char, isDigit_of_isDig10 (List.all_eq_true.1 List.all_takeWhile c hc)]⟩

theorem readIpv4_chars {s : Str} {l : List Nat} {rest : Str} (h : readIpv4 s = some (l, rest)) :
    ∃ body, s = body ++ rest ∧ body.all isV4Char = true := by
  unfold readIpv4 at h
  split at h
  · simp at h
  rename_i _ _ h1
  obtain ⟨d1, rfl, p1⟩ := octet_chars h1
  split at h
  case h_2 => simp at h
  split at h
  · simp at h
  rename_i _ _ h2
  obtain ⟨d2, rfl, p2⟩ := octet_chars h2
  split at h
  case h_2 => simp at h
  split at h
  · simp at h
  rename_i _ _ h3
  obtain ⟨d3, rfl, p3⟩ := octet_chars h3
  split at h
  case h_2 => simp at h
  split at h
  · simp at h
  rename_i _ _ h4
  obtain ⟨d4, rfl, p4⟩ := octet_chars h4
  simp only [Option.some.injEq, Prod.mk.injEq] at h
  obtain ⟨_, rfl⟩ := h
  exact ⟨d1 ++ '.' :: (d2 ++ '.' :: (d3 ++ '.' :: d4)), by simp, by simp [p1, p2, p3, p4, isV4Char]⟩

theorem chars4 (s : Str) (a : Ip4) (h : parse4 s = some a) : ∀ c ∈ s, isDigit c = true ∨ c = '.' := by
  unfold parse4 at h
  split at h
  · rename_i hr
    obtain ⟨body, rfl, p⟩ := readIpv4_chars hr
    simpa [isV4Char] using p
  · simp at h

theorem show4_ne (a : Ip4) : show4 a ≠ [] := by
  simp [show4]

theorem joinColon_len : ∀ l : List Nat, l.length ≤ (joinColon l).length
  | [] => by simp [joinColon]
  | [x] => List.length_pos_iff.2 (showHex_ne x)
  | x :: y :: r => by
    have := joinColon_len (y :: r)
    simp only [joinColon, List.length_append, List.length_cons, List.length_nil] at this ⊢
    omega

/-- the three shapes `show6` prints; the groups as numbers are a variable `segs` that a caller can take apart -/
theorem show6_cases (x : Ip6) {segs : List Nat} (hs : x.segs.map UInt16.toNat = segs) :
    (segs.take 5 = [0, 0, 0, 0, 0] ∧ segs.getD 5 0 = 0xffff ∧ show6 x = "::ffff:".toList ++
      v4text (segs.getD 6 0 / 256) (segs.getD 6 0 % 256) (segs.getD 7 0 / 256) (segs.getD 7 0 % 256)) ∨
    (∃ st ln, longestZeroRun segs = (st, ln) ∧ 1 < ln ∧
      show6 x = joinColon (segs.take st) ++ [':', ':'] ++ joinColon (segs.drop (st + ln))) ∨
    show6 x = joinColon segs := by
  subst hs
  unfold show6
  simp only []
  split
  · rename_i h
    exact .inl ⟨h.1, h.2, by simp only [v4text, List.append_assoc, List.cons_append, List.nil_append]⟩
  · split
    · rename_i hln
      exact .inr (.inl ⟨_, _, rfl, hln, rfl⟩)
    · exact .inr (.inr rfl)

theorem show6_len (x : Ip6) : 2 ≤ (show6 x).length := by
  rcases show6_cases x rfl with ⟨_, _, e⟩ | ⟨_, _, _, _, e⟩ | e <;> rw [e]
  · simp
  · simp; omega
  · have := joinColon_len (x.segs.map UInt16.toNat)
    simp only [List.length_map, x.len8] at this
    omega

theorem joinColon_all {p : Char → Bool} (hp : ∀ d : Fin 16, p (hexDigitChar d.val) = true) (hc : p ':' = true) :
    ∀ l : List Nat, (joinColon l).all p = true
  | [] => rfl
  | [x] => showHex_all hp x
  | x :: y :: r => by simp [joinColon, showHex_all hp x, hc, joinColon_all hp hc (y :: r)]

theorem show6_all {p : Char → Bool} (h10 : ∀ d : Fin 10, p (decDigit d.val) = true)
    (h16 : ∀ d : Fin 16, p (hexDigitChar d.val) = true) (hc : p ':' = true) (hd : p '.' = true) (x : Ip6) :
    (show6 x).all p = true := by
  have hf : p 'f' = true := h16 15
  rcases show6_cases x rfl with ⟨_, _, e⟩ | ⟨_, _, _, _, e⟩ | e <;> rw [e]
  · simp [v4text, showNat_all h10, hc, hd, hf]
  · simp [joinColon_all h16 hc, hc]
  · exact joinColon_all h16 hc _

theorem show6_clean (x : Ip6) : '\n' ∉ show6 x :=
  not_mem_of_all (show6_all (p := (· != '\n')) (by decide) (by decide) (by decide) (by decide) x) (by decide)

end Zmq.Ip
