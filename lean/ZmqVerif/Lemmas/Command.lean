import ZmqVerif.Lemmas.Bytes
import ZmqVerif.Model.Wire
import ZmqVerif.Model.Decoder
import ZmqVerif.Spec.Rfc23
/-! Commands round-trip: the body the encoder writes for a command with ANY property list
(names of 1..255 octets, values shorter than 2^32) parses back to exactly that list — under the
independent RFC-23 reading of a command body, and under the library's own `ZmqCommand::try_from`
(for READY, names valid UTF-8). -/
namespace Zmq

/-- what the wire format can carry -/
def PropsOk (ps : Props) : Prop := ∀ p ∈ ps, 1 ≤ p.1.length ∧ p.1.length ≤ 255 ∧ p.2.length < 2 ^ 32

theorem encodeProps_len (ps : Props) : ps.length ≤ (encodeProps ps).length := by
  induction ps with
  | nil => simp
  | cons p ps ih => obtain ⟨k, v⟩ := p; simp [encodeProps]; omega

theorem parsePropsRfc_cons (f : Nat) (k v rest : Bytes) (hk1 : 1 ≤ k.length) (hk2 : k.length ≤ 255)
    (hv : v.length < 2 ^ 32) :
    Rfc.parsePropsRfc (f + 1) (UInt8.ofNat k.length :: (k ++ (be 4 v.length ++ (v ++ rest)))) =
      (Rfc.parsePropsRfc f rest).map ((k, v) :: ·) := by
  have h1 : ¬ (k ++ (be 4 v.length ++ (v ++ rest))).length < k.length + 4 := by simp
  have h2 : ¬ (v ++ rest).length < v.length := by simp
  simp only [Rfc.parsePropsRfc, u8_ofNat_ne_zero _ hk1 hk2, ofNat_toNat_small _ hk2, if_neg h1, if_false,
    List.take_left, List.drop_left, List.take_left' (be_length 4 _), List.drop_left' (be_length 4 _),
    beNat_be_of_lt (k := 4) hv, if_neg h2]

theorem encodeProps_cons (k v : Bytes) (ps : Props) :
    encodeProps ((k, v) :: ps) = UInt8.ofNat k.length :: (k ++ (be 4 v.length ++ (v ++ encodeProps ps))) := by
  simp [encodeProps]

theorem parsePropsRfc_encode (ps : Props) (hok : PropsOk ps) (fuel : Nat) (hf : ps.length < fuel) :
    Rfc.parsePropsRfc fuel (encodeProps ps) = some ps := by
  induction ps generalizing fuel with
  | nil => cases fuel with
    | zero => cases hf
    | succ f => rfl
  | cons p ps ih =>
    obtain ⟨k, v⟩ := p
    obtain ⟨⟨hk1, hk2, hv⟩, hrest⟩ := List.forall_mem_cons.mp hok
    cases fuel with
    | zero => cases hf
    | succ f =>
      rw [encodeProps_cons, parsePropsRfc_cons f k v _ hk1 hk2 hv, ih hrest f (Nat.lt_of_succ_lt_succ hf)]
      rfl

theorem rfc_commandBody (name : Bytes) (ps : Props) (hn1 : 1 ≤ name.length) (hn2 : name.length ≤ 255)
    (hok : PropsOk ps) : Rfc.parseCommandBody (commandBody name ps) = some (name, ps) := by
  have hc : ¬ (UInt8.ofNat name.length = 0 ∨ (name ++ encodeProps ps).length < name.length) := by
    simp [u8_ofNat_ne_zero _ hn1 hn2]
  have hlen : ps.length < (name ++ encodeProps ps).length + 1 := by
    have := encodeProps_len ps; simp; omega
  show Rfc.parseCommandBody (UInt8.ofNat name.length :: (name ++ encodeProps ps)) = _
  simp only [Rfc.parseCommandBody, ofNat_toNat_small _ hn2, hc, if_false, List.take_left, List.drop_left,
    parsePropsRfc_encode ps hok _ hlen, Option.map_some]

theorem parseProps_cons (f : Nat) (k v rest : Bytes) (acc : Props) (hk2 : k.length ≤ 255)
    (hu : validUtf8 k = true) (hv : v.length < 2 ^ 32) :
    parseProps (f + 1) (UInt8.ofNat k.length :: (k ++ (be 4 v.length ++ (v ++ rest)))) acc =
      parseProps f rest (acc ++ [(k, v)]) := by
  have h1 : ¬ (k ++ (be 4 v.length ++ (v ++ rest))).length < k.length := by simp
  have h2 : ¬ (be 4 v.length ++ (v ++ rest)).length < 4 := by simp
  have h3 : ¬ (v ++ rest).length < v.length := by simp
  simp only [parseProps, List.isEmpty_cons, Bool.false_eq_true, if_false, getU8_cons, Out.ok_bind,
    ofNat_toNat_small _ hk2, if_neg h1, splitTo_of_le h1, List.take_left, List.drop_left, hu, Bool.not_true,
    if_neg h2, getU32_of_le h2, List.take_left' (be_length 4 _), List.drop_left' (be_length 4 _),
    beNat_be_of_lt (k := 4) hv, if_neg h3, splitTo_of_le h3]

theorem parseProps_encode (ps : Props) (hok : PropsOk ps) (hu : ∀ p ∈ ps, validUtf8 p.1 = true)
    (fuel : Nat) (acc : Props) (hf : ps.length < fuel) :
    parseProps fuel (encodeProps ps) acc = .ok (acc ++ ps) := by
  induction ps generalizing fuel acc with
  | nil => cases fuel with
    | zero => cases hf
    | succ f => simp [encodeProps, parseProps]
  | cons p ps ih =>
    obtain ⟨k, v⟩ := p
    obtain ⟨⟨-, hk2, hv⟩, hrest⟩ := List.forall_mem_cons.mp hok
    obtain ⟨huk, hurest⟩ := List.forall_mem_cons.mp hu
    cases fuel with
    | zero => cases hf
    | succ f =>
      rw [encodeProps_cons, parseProps_cons f k v _ acc hk2 huk hv,
        ih hrest hurest f _ (Nat.lt_of_succ_lt_succ hf), List.append_assoc]
      rfl

theorem lib_readyBody (ps : Props) (hok : PropsOk ps) (hu : ∀ p ∈ ps, validUtf8 p.1 = true) :
    parseCommand (commandBody kReady ps) = .ok ps := by
  have hk : kReady.length = (5 : UInt8).toNat := rfl
  have h1 : ¬ (kReady ++ encodeProps ps).length < (5 : UInt8).toNat := by simp [← hk]
  have hlen : ps.length < (encodeProps ps).length + 1 := by have := encodeProps_len ps; omega
  show parseCommand (5 :: (kReady ++ encodeProps ps)) = _
  simp only [parseCommand, List.isEmpty_cons, Bool.false_eq_true, if_false, getU8_cons, Out.ok_bind, if_neg h1,
    sliceTo_of_le h1, splitTo_of_le h1, List.take_left' hk, List.drop_left' hk, ne_eq, not_true_eq_false,
    parseProps_encode ps hok hu _ [] hlen, List.nil_append]

theorem mem_readyProps {t : SockType} {ident : Option Bytes} {idFirst : Bool} {p : Bytes × Bytes}
    (hp : p ∈ readyProps t ident idFirst) :
    p = (kSocketType, t.name) ∨ ∃ i, ident = some i ∧ p = (kIdentity, i) := by
  cases ident with
  | none => exact .inl (by simpa [readyProps] using hp)
  | some i => cases idFirst <;> simp only [readyProps, List.mem_cons, List.not_mem_nil, or_false,
      Bool.false_eq_true, if_false, if_true] at hp <;> rcases hp with rfl | rfl <;> simp

theorem readyProps_ok (t : SockType) (ident : Option Bytes) (idFirst : Bool)
    (hid : ∀ i, ident = some i → i.length < 2 ^ 32) : PropsOk (readyProps t ident idFirst) := by
  have hname : t.name.length < 2 ^ 32 := by cases t <;> decide
  intro p hp
  rcases mem_readyProps hp with rfl | ⟨i, hi, rfl⟩
  · exact ⟨(by decide : 1 ≤ kSocketType.length), (by decide : kSocketType.length ≤ 255), hname⟩
  · exact ⟨(by decide : 1 ≤ kIdentity.length), (by decide : kIdentity.length ≤ 255), hid i hi⟩

end Zmq
