import ZmqVerif.Lemmas.IpLaws
import ZmqVerif.Lemmas.Endpoint
/-! The IPv6 print/parse round trip of the executable std models, `parse6 (show6 a) = some a` for all
2^128 addresses: RFC 5952 printing (`::ffff:a.b.c.d` for mapped addresses, the longest run of two or
more zero groups compressed, first on ties) against the recursive-descent parser with its atomic
back-tracking and its embedded-IPv4 attempt at every group.  The run `show6` elides consists of zeros
(`longestZeroRun_spec`), so filling the gap with zeros restores it (`refill`). -/
namespace Zmq.Ip

theorem readIpv4_none {s : Str} (h : (s.dropWhile (isDig 10)).head? ≠ some '.') : readIpv4 s = none := by
  unfold readIpv4
  split
  · rfl
  · rename_i h1
    rw [← readNumber_rest h1] at h
    split
    · simp at h
    · rfl

def ColonOrEnd (rest : Str) : Prop := ∀ c ∈ rest.head?, c = ':'

theorem colonOrEnd_colon (r : Str) : ColonOrEnd (':' :: r) := fun _ h => (Option.some.inj h).symm

theorem ColonOrEnd.stops {rest : Str} (h : ColonOrEnd rest) {p : Char → Bool} (hp : p ':' = false) :
    Stops p rest := fun c hc => h c hc ▸ hp

theorem v4_fails {xs rest : Str} (hx : '.' ∉ xs) (hr : ColonOrEnd rest) : readIpv4 (xs ++ rest) = none :=
  readIpv4_none fun e => by
    rcases head?_dropWhile_app (hr.stops (by decide)) e with h | h
    · exact hx h
    · exact absurd (hr _ h) (by decide)

theorem nothing_at_end {r : Str} (h : ColonOrEnd r) :
    readIpv4 r = none ∧ readNumber 16 4 65536 true r = none :=
  ⟨v4_fails (xs := []) (by simp) h, readNumber_none (h.stops (by decide))⟩

def EndsGroups (after : Str) : Prop := after = [] ∨ ∃ more, after = ':' :: ':' :: more

theorem EndsGroups.colonOrEnd {after : Str} (h : EndsGroups after) : ColonOrEnd after := by
  rcases h with rfl | ⟨_, rfl⟩ <;> simp [ColonOrEnd]

/-- the separator `read_groups` expects before the next group -/
def sep (acc : List Nat) : Str := if acc = [] then [] else [':']

/-- after its separator `read_groups` tries an IPv4 address, then a group -/
theorem readGroups_sep {fuel limit : Nat} {acc : List Nat} (r : Str) (hl : acc.length < limit) :
    readGroups (fuel + 1) limit (sep acc ++ r) acc =
      match (if acc.length + 1 < limit then readIpv4 r else none) with
      | some ([a, b, c, d], r') => (acc ++ [a * 256 + b, c * 256 + d], true, r')
      | _ =>
        match readNumber 16 4 65536 true r with
        | some (g, r') => readGroups fuel limit r' (acc ++ [g])
        | none => (acc, false, sep acc ++ r) := by
  have hl' : ¬ acc.length ≥ limit := by omega
  by_cases h0 : acc = []
  · subst h0; simp only [readGroups, hl', sep]; rfl
  · have : acc.length ≠ 0 := by simpa using h0
    simp only [readGroups, hl', sep, h0, this]; rfl

theorem readGroups_group {fuel limit : Nat} {acc : List Nat} {g : Nat} {rest : Str}
    (hl : acc.length < limit) (hg : g < 65536) (hr : ColonOrEnd rest) :
    readGroups (fuel + 1) limit (sep acc ++ (showHex g ++ rest)) acc = readGroups fuel limit rest (acc ++ [g]) := by
  have hv4 : readIpv4 (showHex g ++ rest) = none :=
    v4_fails (not_mem_of_all (showHex_all (p := isDig 16) (by decide) g) (by decide)) hr
  rw [readGroups_sep _ hl, hv4, readGroupHex hg (hr.stops (by decide))]
  simp

theorem readGroups_v4 {fuel limit : Nat} {acc : List Nat} {a b c d : Nat} (hl : acc.length + 1 < limit)
    (ha : a < 256) (hb : b < 256) (hc : c < 256) (hd : d < 256) :
    readGroups (fuel + 1) limit (sep acc ++ v4text a b c d) acc = (acc ++ [a * 256 + b, c * 256 + d], true, []) := by
  rw [readGroups_sep _ (by omega), readIpv4_show ha hb hc hd]
  simp [hl]

theorem readGroups_stop {fuel limit : Nat} {acc : List Nat} {after : Str} (h : EndsGroups after) :
    readGroups fuel limit after acc = (acc, false, after) := by
  cases fuel with
  | zero => rfl
  | succ fuel =>
    by_cases h0 : acc = []
    · simp [readGroups, h0, nothing_at_end h.colonOrEnd]
    · have h0 : acc.length ≠ 0 := by simpa using h0
      rcases h with rfl | ⟨more, rfl⟩
      · simp [readGroups, h0]
      · simp [readGroups, h0, nothing_at_end (colonOrEnd_colon more)]

/-- each `:` in the printed run is the separator of the next group -/
theorem readGroups_run {limit : Nat} {rest : Str} (hr : ColonOrEnd rest) :
    ∀ (gs : List Nat) (g fuel : Nat) (acc : List Nat), (∀ x ∈ g :: gs, x < 65536) →
      acc.length + gs.length < limit →
      readGroups (fuel + gs.length + 1) limit (sep acc ++ (joinColon (g :: gs) ++ rest)) acc =
        readGroups fuel limit rest (acc ++ g :: gs)
  | [], g, fuel, acc, hg, hl => readGroups_group hl (hg g (by simp)) hr
  | y :: gs, g, fuel, acc, hg, hl => by
    have h1 := readGroups_group (fuel := fuel + gs.length + 1) (limit := limit) (acc := acc) (g := g)
      (rest := ':' :: (joinColon (y :: gs) ++ rest)) (by simp at hl; omega) (hg g (by simp)) (colonOrEnd_colon _)
    have h2 := readGroups_run (limit := limit) hr gs y fuel (acc ++ [g]) (fun x hx => hg x (by simp [hx]))
      (by simp at hl ⊢; omega)
    simp only [sep, List.append_eq_nil_iff, List.cons_ne_self, and_false, ↓reduceIte, List.append_assoc,
      List.singleton_append] at h2
    simp only [joinColon, List.append_assoc, List.singleton_append]
    exact h1.trans h2

theorem readGroups_join (gs : List Nat) (hg : ∀ g ∈ gs, g < 65536) {fuel limit : Nat} {after : Str}
    (hf : gs.length ≤ fuel) (hl : gs.length ≤ limit) (he : EndsGroups after) :
    readGroups fuel limit (joinColon gs ++ after) [] = (gs, false, after) := by
  cases gs with
  | nil => exact readGroups_stop he
  | cons g gs =>
    obtain ⟨f, rfl⟩ : ∃ f, fuel = f + gs.length + 1 := ⟨fuel - gs.length - 1, by simp at hf; omega⟩
    exact (readGroups_run he.colonOrEnd gs g f [] hg (by simp at hl ⊢; omega)).trans (readGroups_stop he)

def ZRun (segs : List Nat) (r : Nat × Nat) : Prop := (segs.drop r.1).take r.2 = List.replicate r.2 0

theorem ZRun.snoc {segs : List Nat} {st ln : Nat} (h : ZRun segs (st, ln)) (h0 : segs[st + ln]? = some 0) :
    ZRun segs (st, ln + 1) := by
  simp only [ZRun, List.take_add_one, List.getElem?_drop, h0, List.replicate_succ'] at h ⊢
  rw [h]; rfl

/-- `go` has scanned `pre`; `cur` is the zero run that ends there, `longest` the best one seen -/
theorem go_spec : ∀ (xs pre : List Nat) (cur longest : Nat × Nat),
    ZRun (pre ++ xs) cur → ZRun (pre ++ xs) longest → (cur.2 = 0 ∨ cur.1 + cur.2 = pre.length) →
    ZRun (pre ++ xs) (longestZeroRun.go xs pre.length cur longest)
  | [], _, _, _, _, hl, _ => by simpa [longestZeroRun.go] using hl
  | x :: xs, pre, cur, longest, hc, hl, he => by
    have hx : (pre ++ x :: xs)[pre.length]? = some x := by simp
    have ih := go_spec xs (pre ++ [x])
    simp only [List.append_assoc, List.singleton_append, List.length_append, List.length_singleton] at ih
    simp only [longestZeroRun.go]
    split
    · subst x
      generalize hc' : (if cur.2 = 0 then (pre.length, 1) else (cur.1, cur.2 + 1)) = cur'
      have hcur : ZRun (pre ++ 0 :: xs) cur' ∧ cur'.1 + cur'.2 = pre.length + 1 := by
        subst hc'
        split
        · exact ⟨ZRun.snoc (ln := 0) rfl hx, rfl⟩
        · exact ⟨ZRun.snoc hc (by rwa [show cur.1 + cur.2 = pre.length by omega]), by simp only []; omega⟩
      refine ih _ _ hcur.1 ?_ (.inr hcur.2)
      split
      · exact hcur.1
      · exact hl
    · exact ih _ _ rfl hl (.inl rfl)

theorem longestZeroRun_spec (segs : List Nat) : ZRun segs (longestZeroRun segs) :=
  go_spec segs [] (0, 0) (0, 0) rfl rfl (.inl rfl)

theorem refill {segs : List Nat} {st ln : Nat} (h : ZRun segs (st, ln)) :
    segs.take st ++ List.replicate ln 0 ++ segs.drop (st + ln) = segs := by
  rw [← show _ = List.replicate ln 0 from h, ← List.drop_drop, List.append_assoc, List.take_append_drop,
    List.take_append_drop]

theorem list8 {α} (l : List α) (h : l.length = 8) :
    ∃ a b c d e f g h', l = [a, b, c, d, e, f, g, h'] := by
  match l, h with
  | [a, b, c, d, e, f, g, h'], _ => exact ⟨a, b, c, d, e, f, g, h', rfl⟩

theorem mkIp6_segs (x : Ip6) : mkIp6 (x.segs.map UInt16.toNat) = x := by
  obtain ⟨segs, h8⟩ := x
  obtain ⟨a, b, c, d, e, f, g, h', rfl⟩ := list8 segs h8
  have hr : List.range 8 = [0, 1, 2, 3, 4, 5, 6, 7] := by decide
  simp [mkIp6, hr]

theorem parse6_plain (gs : List Nat) (hg : ∀ g ∈ gs, g < 65536) (h8 : gs.length = 8) :
    parse6 (joinColon gs) = some (mkIp6 gs) := by
  have hr := readGroups_join gs hg (fuel := 9) (limit := 8) (by omega) (by omega) (.inl rfl)
  simp only [List.append_nil] at hr
  simp [parse6, hr, h8]

theorem parse6_elided (hs ts : List Nat) (hh : ∀ g ∈ hs, g < 65536) (ht : ∀ g ∈ ts, g < 65536)
    {n : Nat} (hn : 0 < n) (h8 : (hs ++ List.replicate n 0 ++ ts).length = 8) :
    parse6 (joinColon hs ++ [':', ':'] ++ joinColon ts) = some (mkIp6 (hs ++ List.replicate n 0 ++ ts)) := by
  simp only [List.length_append, List.length_replicate] at h8
  have h1 := readGroups_join hs hh (fuel := 9) (limit := 8) (after := ':' :: ':' :: joinColon ts)
    (by omega) (by omega) (.inr ⟨_, rfl⟩)
  have h2 := readGroups_join ts ht (fuel := 9) (limit := 8 - (hs.length + 1)) (after := [])
    (by omega) (by omega) (.inl rfl)
  have hne : ¬ hs.length = 8 := by omega
  have hgap : 8 - hs.length - ts.length = n := by omega
  rw [List.append_nil] at h2
  unfold parse6
  simp only [List.append_assoc, List.cons_append, List.nil_append, h1, hne, ↓reduceIte, Bool.false_eq_true, h2,
    hgap]

theorem parse6_mapped {g h : Nat} (hg : g < 65536) (hh : h < 65536) :
    parse6 ("::ffff:".toList ++ v4text (g / 256) (g % 256) (h / 256) (h % 256)) =
      some (mkIp6 [0, 0, 0, 0, 0, 0xffff, g, h]) := by
  have ht : "::ffff:".toList = ':' :: ':' :: (showHex 0xffff ++ [':']) := by decide
  have h0 := readGroups_stop (fuel := 9) (limit := 8) (acc := [])
    (after := ':' :: ':' :: (showHex 0xffff ++ ':' :: v4text (g / 256) (g % 256) (h / 256) (h % 256)))
    (.inr ⟨_, rfl⟩)
  -- behind a leading `::` at most 8 - (0 + 1) = 7 groups may follow
  have h1 := readGroups_group (fuel := 8) (limit := 7) (acc := []) (g := 0xffff)
    (rest := ':' :: v4text (g / 256) (g % 256) (h / 256) (h % 256)) (by simp) (by omega) (colonOrEnd_colon _)
  have h2 := readGroups_v4 (fuel := 7) (limit := 7) (acc := [0xffff]) (by simp)
    (a := g / 256) (Nat.div_lt_of_lt_mul (by omega)) (Nat.mod_lt g (by omega))
    (c := h / 256) (Nat.div_lt_of_lt_mul (by omega)) (Nat.mod_lt h (by omega))
  rw [Nat.div_add_mod' g 256, Nat.div_add_mod' h 256] at h2
  simp only [sep, ↓reduceIte, List.nil_append, List.cons_ne_self, List.singleton_append] at h1 h2
  unfold parse6
  simp only [ht, List.append_assoc, List.cons_append, List.nil_append, h0, List.length_nil, Nat.reduceEqDiff,
    ↓reduceIte, Bool.false_eq_true, Nat.zero_add, Nat.reduceSub, h1, h2]
  rfl

theorem segs_lt (x : Ip6) : ∀ g ∈ x.segs.map UInt16.toNat, g < 65536 := fun g hg => by
  obtain ⟨u, _, rfl⟩ := List.mem_map.1 hg
  exact u.toNat_lt

theorem parse6_show6 (x : Ip6) {segs : List Nat} (hs : x.segs.map UInt16.toNat = segs) (h8 : segs.length = 8)
    (hlt : ∀ g ∈ segs, g < 65536) : parse6 (show6 x) = some (mkIp6 segs) := by
  rcases show6_cases x hs with ⟨h5, hf, e⟩ | ⟨st, ln, hrun, hln, e⟩ | e <;> rw [e]
  · obtain ⟨s0, s1, s2, s3, s4, s5, s6, s7, rfl⟩ := list8 segs h8
    simp only [List.take, List.getD_cons_succ, List.getD_cons_zero, List.cons.injEq, and_true] at h5 hf ⊢
    obtain ⟨rfl, rfl, rfl, rfl, rfl⟩ := h5
    subst hf
    exact parse6_mapped (hlt s6 (by simp)) (hlt s7 (by simp))
  · have hfill := refill (hrun ▸ longestZeroRun_spec segs)
    rw [parse6_elided _ _ (fun g hg => hlt g (List.mem_of_mem_take hg))
      (fun g hg => hlt g (List.mem_of_mem_drop hg)) (n := ln) (by omega) (by rw [hfill, h8]), hfill]
  · exact parse6_plain segs hlt h8

/-- `Ipv6Addr::from_str(addr.to_string()) == Ok(addr)` -/
theorem rt6 (x : Ip6) : parse6 (show6 x) = some x := by
  rw [parse6_show6 x rfl (by simp [x.len8]) (segs_lt x), mkIp6_segs]

end Zmq.Ip

namespace Zmq.Ep
open Zmq.Ip

theorem stdLaws : Laws stdModel := by
  -- reduce the projections of `stdModel` first: left to itself the unifier unfolds
  -- `parse4 (show4 a)` before `stdModel.parse4`
  constructor <;> dsimp only [stdModel]
  · exact Ip.rt4
  · exact Ip.rt6
  · exact Ip.chars4
  · exact Ip.show4_ne
  · exact Ip.show6_len
  · exact Ip.show6_clean

end Zmq.Ep
