import ZmqVerif.Lemmas.WorldSend
namespace Zmq.W
open Zmq

/-- what the subscribe/unsubscribe future has handed to peer `k` beyond `base`, by the future's state; `none` = `k` has
been dealt with (told, or its write failed) -/
def subExpect (enc : Bytes) (k : Ident) (todo : List Ident) (cur : Option (Ident × SendSt)) : Option Bytes :=
  if k ∈ todo then some []
  else match cur with
    | some (j, st) => if j = k then some (SendSt.handed enc st) else none
    | none => none

/-- the invariant of a `subscribe`/`unsubscribe` in progress, seen from ONE registered peer `k` (pipe `p`, shared with no
other peer) -/
def SubInv (w : World) (sid : Nat) (k : Ident) (p : Nat) (base enc : Bytes) (todo : List Ident)
    (cur : Option (Ident × SendSt)) (failed : Bool) : Prop :=
  ∃ s wr, getSock w sid = some s ∧ ilookup s.peers k = some wr ∧ wr.pipe = p ∧
    (∀ j wr2, j ≠ k → ilookup s.peers j = some wr2 → wr2.pipe ≠ p) ∧
    todo.Nodup ∧ (∀ j st, cur = some (j, st) → j ∉ todo ∧ (st = .feeding enc ∨ st = .flushing)) ∧
    (match subExpect enc k todo cur with
     | some x => outOf w.pipes wr = base ++ x
     | none => failed = true ∨ outOf w.pipes wr = base ++ enc)

theorem outOf_setSock (w : World) (sid : Nat) (s : Socket) (wr : Wr) : outOf (setSock w sid s).pipes wr = outOf w.pipes wr := rfl

theorem subExpect_mem {enc : Bytes} {k : Ident} {todo : List Ident} (cur : Option (Ident × SendSt)) (h : k ∈ todo) :
    subExpect enc k todo cur = some [] := by
  simp [subExpect, h]

theorem subExpect_self {enc : Bytes} {k : Ident} {todo : List Ident} (st : SendSt) (h : k ∉ todo) :
    subExpect enc k todo (some (k, st)) = some (SendSt.handed enc st) := by
  simp [subExpect, h]

theorem subExpect_none {enc : Bytes} {k : Ident} {todo : List Ident} {cur : Option (Ident × SendSt)} (h : k ∉ todo)
    (hc : ∀ st, cur ≠ some (k, st)) : subExpect enc k todo cur = none := by
  unfold subExpect
  rw [if_neg h]
  rcases cur with _ | ⟨j, st⟩
  · rfl
  · exact if_neg fun (e : j = k) => hc st (by rw [e])

theorem subExpect_other {enc : Bytes} {k : Ident} {todo : List Ident} {cur cur' : Option (Ident × SendSt)}
    (hc : ∀ st, cur ≠ some (k, st)) (hc' : ∀ st, cur' ≠ some (k, st)) :
    subExpect enc k todo cur = subExpect enc k todo cur' := by
  by_cases h : k ∈ todo
  · rw [subExpect_mem _ h, subExpect_mem _ h]
  · rw [subExpect_none h hc, subExpect_none h hc']

theorem subExpect_next (enc : Bytes) (k j : Ident) (rest : List Ident) :
    subExpect enc k rest (some (j, .feeding enc)) = subExpect enc k (j :: rest) none := by
  by_cases hkr : k ∈ rest <;> by_cases hjk : j = k <;> simp [subExpect, SendSt.handed, hkr, hjk, eq_comm (a := k)]

theorem SubInv.next {w : World} {sid : Nat} {k : Ident} {p : Nat} {base enc : Bytes} {j : Ident} {rest : List Ident}
    {failed : Bool} (h : SubInv w sid k p base enc (j :: rest) none failed) :
    SubInv w sid k p base enc rest (some (j, .feeding enc)) failed := by
  obtain ⟨s, wr, hs, hk, hp, hdist, hnd, _, hexp⟩ := h
  obtain ⟨hj, hnd'⟩ := List.nodup_cons.mp hnd
  refine ⟨s, wr, hs, hk, hp, hdist, hnd', ?_, subExpect_next enc k j rest ▸ hexp⟩
  rintro j' st' ⟨⟩; exact ⟨hj, .inl rfl⟩

theorem SubInv.skip {w : World} {sid : Nat} {k : Ident} {p : Nat} {base enc : Bytes} {todo : List Ident} {j : Ident}
    {st : SendSt} {failed : Bool} (h : SubInv w sid k p base enc todo (some (j, st)) failed) {s : Socket}
    (hs : getSock w sid = some s) (hj : ilookup s.peers j = none) : SubInv w sid k p base enc todo none failed := by
  obtain ⟨s', wr, hs', hk, hp, hdist, hnd, _, hexp⟩ := h
  cases hs.symm.trans hs'
  have hjk : j ≠ k := fun e => by rw [e, hk] at hj; cases hj
  refine ⟨s, wr, hs, hk, hp, hdist, hnd, nofun, ?_⟩
  rw [subExpect_other (cur := none) (cur' := some (j, st)) (fun _ => nofun) (fun st' e => hjk (by cases e; rfl))]; exact hexp

/-- a write to ANOTHER peer `j`, whatever comes of it: `k`'s connection is not touched -/
theorem SubInv.write_other {w : World} {sid : Nat} {k : Ident} {p : Nat} {base enc : Bytes} {todo : List Ident}
    {j : Ident} {st : SendSt} {failed : Bool} (h : SubInv w sid k p base enc todo (some (j, st)) failed) {s : Socket}
    {wrj : Wr} (hs : getSock w sid = some s) (hlj : ilookup s.peers j = some wrj) (hjk : j ≠ k)
    (cur' : Option (Ident × SendSt)) (failed' : Bool)
    (hcur' : ∀ j' st', cur' = some (j', st') → j' = j ∧ (st' = .feeding enc ∨ st' = .flushing))
    (hf : failed = true → failed' = true) :
    SubInv (setSock { w with pipes := (wrSendPoll w.pipes wrj st).1 } sid
      { s with peers := iinsert s.peers j (wrSendPoll w.pipes wrj st).2.1 }) sid k p base enc todo cur' failed' := by
  obtain ⟨s', wr, hs', hk, hp, hdist, hnd, hcur, hexp⟩ := h
  cases hs.symm.trans hs'
  have hpj : wrj.pipe ≠ p := hdist j wrj hjk hlj
  have hout : outOf (wrSendPoll w.pipes wrj st).1 wr = outOf w.pipes wr := by
    simp only [outOf, hp, wrSendPoll_frame w.pipes wrj st p (fun e => hpj e.symm)]
  refine ⟨_, wr, getSock_setSock_same _ _ _, ?_, hp, ?_, hnd, ?_, ?_⟩
  · rw [ilookup_iinsert_other _ _ _ _ (fun e => hjk e.symm)]; exact hk
  · intro j' wr2 hj' hl
    by_cases hjj : j' = j
    · rw [hjj, ilookup_iinsert_same] at hl; cases hl
      rw [wrSendPoll_pipe]; exact hpj
    · rw [ilookup_iinsert_other _ _ _ _ hjj] at hl
      exact hdist j' wr2 hj' hl
  · intro j' st' e
    obtain ⟨rfl, hst'⟩ := hcur' j' st' e
    exact ⟨(hcur _ _ rfl).1, hst'⟩
  · rw [subExpect_other (cur' := some (j, st)) (fun st' e => hjk (hcur' _ _ e).1.symm) (fun st' e => hjk (by cases e; rfl)),
      setSock_pipes, hout]
    revert hexp
    cases subExpect enc k todo (some (j, st)) with
    | some x => exact id
    | none => exact Or.imp_left hf

theorem SubInv.write {w : World} {sid : Nat} {k : Ident} {p : Nat} {base enc : Bytes} {todo : List Ident} {j : Ident}
    {st : SendSt} {failed : Bool} (h : SubInv w sid k p base enc todo (some (j, st)) failed) {s : Socket} {wrj : Wr}
    (hs : getSock w sid = some s) (hlj : ilookup s.peers j = some wrj) :
    let q := wrSendPoll w.pipes wrj st
    let w1 := setSock { w with pipes := q.1 } sid { s with peers := iinsert s.peers j q.2.1 }
    (q.2.2.2 = .pending → SubInv w1 sid k p base enc todo (some (j, q.2.2.1)) failed) ∧
    (q.2.2.2 = .done → SubInv w1 sid k p base enc todo none failed) ∧
    (q.2.2.2 = .error → SubInv w1 sid k p base enc todo none true) := by
  by_cases hjk : j = k
  · -- the write is to `k` itself
    subst hjk
    obtain ⟨s', wr', hs', hk', hp, hdist, hnd, hcur, hexp⟩ := h
    cases hs.symm.trans hs'
    cases hlj.symm.trans hk'
    obtain ⟨hkt, hst⟩ := hcur j st rfl
    rw [subExpect_self _ hkt] at hexp
    obtain ⟨h1, h2, h3, h4⟩ := wrSendPoll_spec w.pipes wrj base enc st hst hexp
    -- first the part of the invariant that is the same for every outcome; left per outcome: `cur'`, and what `k` holds
    refine ⟨fun _ => ?_, fun hd => ?_, fun _ => ?_⟩ <;>
      refine ⟨_, _, getSock_setSock_same _ _ _, ilookup_iinsert_same _ _ _, h1.trans hp,
        fun j' wr2 hj' hl => hdist j' wr2 hj' (by rwa [ilookup_iinsert_other _ _ _ _ hj'] at hl), hnd, ?_, ?_⟩
    · rintro j st' ⟨⟩; exact ⟨hkt, h2⟩
    · rw [subExpect_self _ hkt]; exact h3
    · nofun
    · rw [subExpect_none (cur := none) hkt (fun _ => nofun)]
      obtain ⟨hb, hw⟩ := h4 hd
      exact .inr (by simp only [outOf, hb, List.append_nil, h1]; exact hw)
    · nofun
    · rw [subExpect_none (cur := none) hkt (fun _ => nofun)]; exact .inl rfl
  · have hst := (wrSendPoll_stream w.pipes wrj enc st (let ⟨_, _, _, _, _, _, _, hc, _⟩ := h; (hc j st rfl).2)).2.1
    exact ⟨fun _ => h.write_other hs hlj hjk _ _ (by rintro _ _ ⟨⟩; exact ⟨rfl, hst⟩) id,
      fun _ => h.write_other hs hlj hjk _ _ nofun id, fun _ => h.write_other hs hlj hjk _ _ nofun (fun _ => rfl)⟩

/-- **One poll of `subscribe` / `unsubscribe` (after the set has changed), seen from one peer.**  The future walks the
peers that were registered when it started and announces the change to each with a full `send` (feed + flush).
`SubInv` is kept by every poll, however many peers it gets through, whatever the other peers' connections do
(back-pressure, errors, peers that vanished); when the call completes WITHOUT error, peer `k`'s outgoing stream is
`base` followed by the complete announcement — exactly once, whole. -/
theorem subOpPoll_spec (fuel : Nat) (w : World) (sid : Nat) (isSub : Bool) (topic : Bytes) (k : Ident) (p : Nat) (base : Bytes)
    (todo : List Ident) (cur : Option (Ident × SendSt)) (failed : Bool)
    (hinv : SubInv w sid k p base (encodeMsg (subsMsg isSub topic)) todo cur failed)
    (w' : World) (f' : FutSt) (o : POut)
    (h : subOpPoll fuel w sid isSub topic true todo cur failed = (w', f', o)) :
    match (generalizing := false) f', o with
    | .subOp _ _ _ _ todo' cur' failed', .pending =>
        SubInv w' sid k p base (encodeMsg (subsMsg isSub topic)) todo' cur' failed'
    | _, .ready .okUnit => ∃ s' wr', getSock w' sid = some s' ∧ ilookup s'.peers k = some wr' ∧ wr'.pipe = p ∧
        outOf w'.pipes wr' = base ++ encodeMsg (subsMsg isSub topic)
    | _, .ready (.err _) => True
    | _, _ => False := by
  induction fuel generalizing w todo cur failed with
  | zero => cases h; trivial
  | succ fuel ih =>
    obtain ⟨s, hs⟩ : ∃ s, getSock w sid = some s := let ⟨s, _, hs, _⟩ := hinv; ⟨s, hs⟩
    rcases cur with _ | ⟨j, st⟩ <;> simp only [subOpPoll, hs, Bool.not_true, Bool.false_eq_true, ↓reduceIte] at h
    · cases todo with
      | nil =>
        obtain ⟨s', wr, hs', hk, hp, _, _, _, hexp⟩ := hinv
        cases failed <;> cases h
        · exact ⟨s', wr, hs', hk, hp, hexp.resolve_left nofun⟩
        · trivial
      | cons j rest => exact ih w rest _ failed hinv.next h
    · cases hlj : ilookup s.peers j with
      | none =>
        simp only [hlj] at h
        exact ih w todo none failed (hinv.skip hs hlj) h
      | some wrj =>
        simp only [hlj] at h
        have hw := hinv.write hs hlj
        generalize wrSendPoll w.pipes wrj st = q at h hw
        obtain ⟨ps1, wr1, st1, r⟩ := q
        obtain ⟨hpend, hdone, herr⟩ := hw
        cases r with
        | pending => cases h; exact hpend rfl
        | done => exact ih _ todo none failed (hdone rfl) h
        | error => exact ih _ todo none true (herr rfl) h

theorem SubInv.start (w : World) (sid : Nat) (s : Socket) (k : Ident) (wr : Wr) (enc : Bytes) (subs' : List Bytes)
    (hk : ilookup s.peers k = some wr)
    (hdist : ∀ j wr2, j ≠ k → ilookup s.peers j = some wr2 → wr2.pipe ≠ wr.pipe)
    (hnd : (s.peers.map (·.1)).Nodup) :
    SubInv (setSock w sid { s with subs := subs' }) sid k wr.pipe (outOf w.pipes wr) enc (s.peers.map (·.1)) none false := by
  refine ⟨_, wr, getSock_setSock_same _ _ _, hk, rfl, hdist, hnd, (fun _ _ he => by cases he), ?_⟩
  rw [subExpect_mem none (mem_keys_of_ilookup _ _ _ hk)]
  exact (List.append_nil _).symm

end Zmq.W
