import ZmqVerif.Lemmas.WorldRecv
namespace Zmq.W
open Zmq

/-- **REQ `recv` against the awaited peer's byte stream.**  REQ reads only the connection its outstanding
request went to.  One poll either is `Pending` — then that connection's stream holds no complete item, its
reader is where it was, and the request marker stays (the recv is still owed) — or it consumes EXACTLY the
first item of that stream: a message is returned with its delimiter removed (`reqUnwrap`) or rejected with
one error, anything else is one error; end of stream / a stream error are reported once, with nothing
complete left.  No other pipe's waiting bytes are touched. -/
theorem reqRecvPoll_spec (w : World) (sid : Nat) (s : Socket) (hs : getSock w sid = some s)
    (k : Ident) (hc : s.current = some k) (rd : Rd) (hk : ilookup s.reqRd k = some rd)
    (w' : World) (o : POut) (h : reqRecvPoll w sid = (w', o)) :
    (∀ j, j ≠ rd.pipe → inbufOf w'.pipes j = inbufOf w.pipes j) ∧
    (match o with
     | .pending => rd.items w.pipes = [] ∧
         ∃ s' rd', getSock w' sid = some s' ∧ s'.current = some k ∧ ilookup s'.reqRd k = some rd' ∧
           rd'.rem w'.pipes = rd.rem w.pipes
     | .ready (.okMsg r) => ∃ m rest, rd.items w.pipes = .message m :: rest ∧ reqUnwrap m = some r
     | .ready (.err _) =>
         rd.items w.pipes = [] ∨ (∃ i rest, rd.items w.pipes = i :: rest ∧
           (∀ m, i = .message m → reqUnwrap m = none))
     | _ => False) := by
  rcases hrp : readerPoll (readFuel w.pipes rd) w.pipes rd .user with ⟨r0, ps0, rd0⟩
  obtain ⟨-, hfr, hres⟩ := readerPoll_spec _ w.pipes rd _ (readFuel_ok w.pipes rd) r0 ps0 rd0 hrp
  unfold reqRecvPoll at h
  simp only [hs, hc, hk, hrp] at h
  cases r0 with
  | pending =>
    obtain ⟨rfl, rfl⟩ := Prod.mk.inj h
    exact ⟨hfr, hres.2, _, rd0, getSock_setSock_same _ _ _, rfl, ilookup_iinsert_same _ _ _, hres.1.symm⟩
  | item i =>
    have hitems : rd.items w.pipes = i :: rd0.items ps0 := Rd.items_of_rem hres
    cases i with
    | message m =>
      simp only at h
      cases hu : reqUnwrap m with
      | none =>
        rw [hu] at h; obtain ⟨rfl, rfl⟩ := Prod.mk.inj h
        exact ⟨hfr, Or.inr ⟨_, _, hitems, fun m' hm' => by cases hm'; exact hu⟩⟩
      | some r =>
        rw [hu] at h; obtain ⟨rfl, rfl⟩ := Prod.mk.inj h
        exact ⟨hfr, _, _, hitems, hu⟩
    | greeting g | command p =>
      obtain ⟨rfl, rfl⟩ := Prod.mk.inj h
      exact ⟨hfr, Or.inr ⟨_, _, hitems, nofun⟩⟩
  | err e | eof =>
    obtain ⟨rfl, rfl⟩ := Prod.mk.inj h
    exact ⟨fun j hj => (peerDisconnected_inbuf _ _ _ j).trans (hfr j hj), Or.inl hres⟩

theorem reqRecvPoll_current (w : World) (sid : Nat) (s : Socket) (hs : getSock w sid = some s)
    (w' : World) (o : POut) (h : reqRecvPoll w sid = (w', o)) :
    ∃ s', getSock w' sid = some s' ∧
      (o = .pending → s.current.isSome ∧ s'.current = s.current) ∧
      (∀ m, o = .ready (.okMsg m) → s.current.isSome) ∧ (o ≠ .pending → s'.current = none) := by
  unfold reqRecvPoll at h
  simp only [hs] at h
  cases hc : s.current with
  | none =>
    simp only [hc, Prod.mk.injEq] at h
    obtain ⟨rfl, rfl⟩ := h
    exact ⟨s, hs, nofun, nofun, fun _ => hc⟩
  | some k =>
    simp only [hc] at h
    cases hr : ilookup s.reqRd k with
    | none =>
      simp only [hr, Prod.mk.injEq] at h
      obtain ⟨rfl, rfl⟩ := h
      exact ⟨_, getSock_setSock_same _ _ _, nofun, fun _ _ => rfl, fun _ => rfl⟩
    | some rd =>
      simp only [hr] at h
      generalize readerPoll (readFuel w.pipes rd) w.pipes rd .user = rp at h
      obtain ⟨r, ps, rd'⟩ := rp
      -- every arm ends in `setSock _ sid s'`; only the `Pending` arm keeps the marker
      cases r with
      | pending =>
        obtain ⟨rfl, rfl⟩ := Prod.mk.inj h
        exact ⟨_, getSock_setSock_same _ _ _, fun _ => ⟨rfl, rfl⟩, nofun, fun h => (h rfl).elim⟩
      | eof | err _ =>
        obtain ⟨rfl, rfl⟩ := Prod.mk.inj h
        exact ⟨_, getSock_setSock_same _ _ _, nofun, nofun, fun _ => by rw [peerDisconnected_eq]⟩
      | item i =>
        cases i with
        | message mm =>
          simp only at h
          split at h <;> obtain ⟨rfl, rfl⟩ := Prod.mk.inj h <;>
            exact ⟨_, getSock_setSock_same _ _ _, nofun, fun _ _ => rfl, fun _ => rfl⟩
        | greeting _ | command _ =>
          obtain ⟨rfl, rfl⟩ := Prod.mk.inj h
          exact ⟨_, getSock_setSock_same _ _ _, nofun, fun _ _ => rfl, fun _ => rfl⟩

end Zmq.W
