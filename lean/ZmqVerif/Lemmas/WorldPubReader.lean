import ZmqVerif.Lemmas.WorldRecv
namespace Zmq.W
open Zmq

/-- **PUB's per-subscriber reader task against the subscriber's byte stream.**  Run until it is `Pending` or
ends, the task has consumed a PREFIX `c` of the items the rest of the connection's stream decodes to, and the
subscription list it keeps for that subscriber is the old one with `onMsg` (push on `01 …`, remove the first
equal on `00 …`, ignore anything else, only single-frame messages) folded over exactly the messages in `c`, in
order; commands and greetings in between change nothing; no other subscriber's list and no other pipe's waiting
bytes are touched.  If the task ends (end of stream / error), nothing complete was left behind. -/
theorem readerTask_spec (fuel : Nat) (ps : Pipes) (s : Socket) (k : Ident) (rd : Rd)
    (subs : List Bytes) (hsub : ilookup s.subsOf k = some subs)
    (ps' : Pipes) (s' : Socket) (r : Option Rd) (h : readerTask fuel ps s k rd = (ps', s', r)) :
    ∃ c : List Item,
      (∀ j, j ≠ rd.pipe → inbufOf ps' j = inbufOf ps j) ∧
      (∀ j, j ≠ k → ilookup s'.subsOf j = ilookup s.subsOf j) ∧
      (match r with
       | some rd' => rd'.pipe = rd.pipe ∧ rd.rem ps = (rd'.rem ps').pre c ∧
           ilookup s'.subsOf k = some ((msgsOf c).foldl onMsg subs)
       | none => rd.items ps = c) := by
  induction fuel generalizing ps s rd subs with
  | zero =>
    simp only [readerTask, Prod.mk.injEq] at h
    obtain ⟨rfl, rfl, rfl⟩ := h
    exact ⟨[], fun _ _ => rfl, fun _ _ => rfl, rfl, by simp, by simpa [msgsOf] using hsub⟩
  | succ fuel ih =>
    unfold readerTask at h
    rcases hrp : readerPoll (readFuel ps rd) ps rd .user with ⟨r0, ps0, rd0⟩
    obtain ⟨hp, hfr, hres⟩ := readerPoll_spec _ ps rd _ (readFuel_ok ps rd) r0 ps0 rd0 hrp
    simp only [hrp] at h
    cases r0 with
    | pending =>
      simp only [Prod.mk.injEq] at h
      obtain ⟨rfl, rfl, rfl⟩ := h
      exact ⟨[], hfr, fun _ _ => rfl, hp, by simpa using hres.1, by simpa [msgsOf] using hsub⟩
    | eof | err _ =>
      simp only [Prod.mk.injEq] at h
      obtain ⟨rfl, rfl, rfl⟩ := h
      refine ⟨[], fun j hj => ?_, fun j hj => peerDisconnected_subsOf_other _ _ _ _ hj, hres⟩
      rw [inbufOf_dropR, peerDisconnected_inbuf]; exact hfr j hj
    | item i =>
      have hitems : rd.items ps = i :: rd0.items ps0 := Rd.items_of_rem hres
      -- the task goes on with `rd0` and with `k`'s list updated by `i` (a message) or as it was (anything else)
      have next : ∃ s1 subs1, readerTask fuel ps0 s1 k rd0 = (ps', s', r) ∧ ilookup s1.subsOf k = some subs1 ∧
          (∀ j, j ≠ k → ilookup s1.subsOf j = ilookup s.subsOf j) ∧
          ∀ c, (msgsOf (i :: c)).foldl onMsg subs = (msgsOf c).foldl onMsg subs1 := by
        cases i with
        | message m =>
          simp only [hsub] at h
          exact ⟨_, onMsg subs m, h, ilookup_iinsert_same _ _ _, fun j hj => ilookup_iinsert_other _ _ _ _ hj,
            fun _ => rfl⟩
        | greeting g | command p => exact ⟨s, subs, h, hsub, fun _ _ => rfl, fun _ => rfl⟩
      obtain ⟨s1, subs1, h, hsub1, hother, hfold⟩ := next
      obtain ⟨c, h1, h2, h3⟩ := ih ps0 s1 rd0 subs1 hsub1 h
      refine ⟨i :: c, fun j hj => by rw [h1 j (by rw [hp]; exact hj), hfr j hj],
        fun j hj => by rw [h2 j hj, hother j hj], ?_⟩
      cases r with
      | some rd' => exact ⟨h3.1.trans hp, by rw [hres, h3.2.1, RunOut.pre_pre]; rfl, by rw [h3.2.2, hfold]⟩
      | none => exact hitems.trans (congrArg _ h3)

end Zmq.W
