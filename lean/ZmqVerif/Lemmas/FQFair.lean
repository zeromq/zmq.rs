import ZmqVerif.Lemmas.FQInv
/-! Bounded bypass: while peer `i` is owed a delivery, every other peer is served at most once.
Tickets only grow (`TickLt`), a token keeps its ticket until its owner is served (`hasTok_step`),
so a peer served while `i` waits is re-ticketed behind `i` and stays there (`behind_step`). -/
namespace Zmq.FQ

def pcTicket : Pc → Nat
  | .b t _ => t
  | .c t _ _ => t
  | _ => 0

/-- `k` owns a token carrying ticket `t` -/
def hasTok (s : St) (k t : Nat) : Prop :=
  (t, k) ∈ s.heap ∨ (s.peer k).armed = some t ∨ (handKey s.pc = some k ∧ pcTicket s.pc = t)

/-- every ticket in circulation was issued by the counter -/
def TickLt (s : St) : Prop := ∀ k t, hasTok s k t → t < s.counter

/-- `i` has a complete item that has not yet been handed to the application -/
def owed (s : St) (i : Nat) : Prop :=
  live s i ∧ ((s.peer i).q ≠ [] ∨ ∃ t item, s.pc = .c t i (.some item))

/-- `j` is strictly behind `i`: not in hand and all its tickets are larger than all of `i`'s -/
def behind (s : St) (i j : Nat) : Prop :=
  handKey s.pc ≠ some j ∧ ∀ ti tj, hasTok s i ti → hasTok s j tj → ti < tj

def delivers (s : St) : Op → Option Nat
  | .recvStep => match s.pc with
    | .c _ k (.some _) => some k
    | _ => none
  | _ => none

theorem hasTok_exhaust {s : St} {x t : Nat} (h : hasTok { s with exhausted := true } x t) : hasTok s x t := h

theorem hasTok_step {s : St} {op : Op} {x t : Nat} (h : hasTok (step s op) x t) :
    hasTok s x t ∨ (t = s.counter ∧ (step s op).counter = s.counter + 1 ∧
      (s.reg x = .absent ∨ delivers s op = some x)) := by
  have tr := step_tr s op
  generalize step s op = s' at tr h ⊢
  unfold hasTok at h ⊢
  rcases h with h | h | h
  · -- an event in the heap: it was there before, or this step has pushed it
    cases tr with
    | skip | exhaust | setWaker | remove | feed | arm | item | eof | pollStart | park | yield | drop | putBack =>
      exact .inl (.inl h)
    | checkout _ _ _ _ hpop | stale _ _ _ _ hpop => exact .inl (.inl ((popMin_mem_iff hpop _).2 (.inr h)))
    | insert k hreg =>
      rcases List.mem_cons.1 h with h | h
      · cases h; exact .inr ⟨rfl, rfl, .inl hreg⟩
      · exact .inl (.inl h)
    | deliver t0 k item hpc =>
      rcases List.mem_cons.1 h with h | h
      · cases h; exact .inr ⟨rfl, rfl, .inr (by simp [delivers, hpc])⟩
      · exact .inl (.inl h)
    | feedFire _ k _ _ t0 _ ha =>
      rcases List.mem_cons.1 h with h | h
      · cases h; exact .inl (.inr (.inl ha))
      · exact .inl (.inl h)
    | selfWake t0 k hpc =>
      rcases List.mem_cons.1 h with h | h
      · cases h; exact .inl (.inr (.inr (by simp [hpc, handKey, pcTicket])))
      · exact .inl (.inl h)
  · -- an armed waker: it was armed before, or the ticket in hand has just been armed
    cases tr with
    | skip | exhaust | setWaker | insert | deliver | checkout | stale | selfWake | eof | pollStart | park | yield
    | drop | putBack => exact .inl (.inr (.inl h))
    | item => rw [upd_peer_armed] at h; exact .inl (.inr (.inl h))
    | remove k | feed _ k | feedFire _ k =>
      by_cases e : x = k
      · subst e; simp at h
      · exact .inl (.inr (.inl (by simpa [upd, e] using h)))
    | arm t0 k hpc =>
      by_cases e : x = k
      · subst e; exact .inl (.inr (.inr (by simpa [hpc, handKey, pcTicket] using h)))
      · exact .inl (.inr (.inl (by simpa [upd, e] using h)))
  · -- a ticket in hand: it was in hand before, or has just been popped from the heap
    cases tr with
    | skip | exhaust | setWaker | insert | remove | feed | feedFire | stale => exact .inl (.inr (.inr h))
    | deliver | selfWake | arm | pollStart | park | yield | drop | putBack => simp [handKey] at h
    | item _ _ _ _ hpc | eof _ _ hpc => exact .inl (.inr (.inr (by simpa [hpc, handKey, pcTicket] using h)))
    | checkout t0 k rest hpc hpop =>
      obtain ⟨rfl, rfl⟩ : k = x ∧ t0 = t := by simpa [handKey, pcTicket] using h
      exact .inl (.inl ((popMin_mem_iff hpop _).2 (.inl rfl)))

theorem hasTok_step_old {s : St} {op : Op} {x t : Nat} (hl : live s x) (hnd : delivers s op ≠ some x)
    (h : hasTok (step s op) x t) : hasTok s x t := by
  rcases hasTok_step h with h | ⟨_, _, h | h⟩
  · exact h
  · rcases hl with hl | hl <;> cases hl.symm.trans h
  · exact absurd h hnd

theorem counter_mono (s : St) (op : Op) : s.counter ≤ (step s op).counter := by
  have tr := step_tr s op
  generalize step s op = s' at tr ⊢
  cases tr <;> simp

theorem tickLt_step {s : St} (op : Op) (h : TickLt s) : TickLt (step s op) := by
  intro k t ht
  rcases hasTok_step ht with h1 | ⟨h1, h2, _⟩
  · exact Nat.lt_of_lt_of_le (h k t h1) (counter_mono s op)
  · omega

theorem tickLt_init : TickLt ({} : St) := by
  intro k t h; simp [hasTok, handKey] at h

/-- a `none` result means the stream really ended -/
def NoneQ (s : St) : Prop := ∀ t k, s.pc = .c t k .none → (s.peer k).q = [] ∧ (s.peer k).closed = true

theorem noneQ_step {s : St} (op : Op) (h : NoneQ s) : NoneQ (step s op) := by
  have tr := step_tr s op
  generalize step s op = s' at tr ⊢
  intro t k hpc
  cases tr with
  | skip | insert | exhaust | setWaker | stale => exact h t k hpc
  | feed _ k' _ _ hc | feedFire _ k' _ _ _ hc =>
    -- `k` has ended, `k'` has not
    have hk := h t k hpc
    have e : k ≠ k' := by rintro rfl; rw [hc] at hk; cases hk.2
    show (upd s.peer k' _ k).q = [] ∧ (upd s.peer k' _ k).closed = true
    rw [upd_other _ _ _ _ e]; exact hk
  | remove k' =>
    have hk := h t k hpc
    show (upd s.peer k' _ k).q = [] ∧ (upd s.peer k' _ k).closed = true
    by_cases e : k = k'
    · subst e; rw [upd_same]; exact hk
    · rw [upd_other _ _ _ _ e]; exact hk
  | eof t' k' _ _ hq hc => cases hpc; exact ⟨hq, hc⟩
  | pollStart | park | yield | checkout | selfWake | item | arm | deliver | drop | putBack => cases hpc

theorem noneQ_init : NoneQ ({} : St) := by intro t k h; simp at h

theorem delivers_some {s : St} {op : Op} {k : Nat} (h : delivers s op = some k) :
    op = .recvStep ∧ ∃ t item, s.pc = .c t k (.some item) := by
  unfold delivers at h
  split at h
  · split at h
    · cases h; exact ⟨rfl, _, _, ‹_›⟩
    · cases h
  · cases h

theorem owed_step {s : St} {op : Op} {i : Nat} (hinv : Inv s) (hnq : NoneQ s) (ho : owed s i)
    (hnd : delivers s op ≠ some i) (hnr : op ≠ .remove i) : owed (step s op) i := by
  have tr := step_tr s op
  generalize step s op = s' at tr ⊢
  obtain ⟨hl, hq⟩ := ho
  have hq' : (∀ t item, s.pc ≠ .c t i (.some item)) → (s.peer i).q ≠ [] := fun hpc =>
    hq.resolve_right fun ⟨t, item, h⟩ => hpc t item h
  unfold live at hl
  unfold owed live
  cases tr with
  | skip | exhaust | setWaker => exact ⟨hl, hq⟩
  | insert k => exact ⟨upd_live k (.inl rfl) hl, hq⟩
  | remove k =>
    have e : i ≠ k := fun e => hnr (e ▸ rfl)
    exact ⟨by simpa [upd, e] using hl, by simpa [upd, e] using hq⟩
  | feed _ k | feedFire _ k =>
    refine ⟨hl, hq.imp_left fun hq => ?_⟩
    by_cases e : i = k
    · subst e; simp [hq]
    · simpa [upd, e] using hq
  | pollStart hpc => exact ⟨hl, .inl (hq' (by rcases hpc with h | h <;> rw [h] <;> nofun))⟩
  | park hpc | yield _ _ _ hpc | stale _ _ _ hpc | selfWake _ _ hpc | eof _ _ hpc =>
    exact ⟨hl, .inl (hq' (by rw [hpc]; nofun))⟩
  | checkout _ k _ hpc => exact ⟨upd_live k (.inr rfl) hl, .inl (hq' (by rw [hpc]; nofun))⟩
  | arm _ k hpc =>
    refine ⟨hl, .inl ?_⟩
    show (upd s.peer k _ i).q ≠ []
    rw [upd_peer_q]; exact hq' (by rw [hpc]; nofun)
  | item t k it q' hpc _ hqk =>
    have := hq' (by rw [hpc]; nofun)
    refine ⟨hl, ?_⟩
    by_cases e : i = k
    · subst e; exact .inr ⟨t, it, rfl⟩
    · exact .inl (by simpa [upd, e] using this)
  | deliver t k it hpc =>
    have e : i ≠ k := by rintro rfl; exact hnd (by simp [delivers, hpc])
    exact ⟨upd_live k (.inl rfl) hl, .inl (hq' fun _ _ h => e (by rw [hpc] at h; cases h; rfl))⟩
  | drop t k hpc =>
    -- a stream that ended owes nothing
    have hq := hq' (by rw [hpc]; nofun)
    have e : i ≠ k := by rintro rfl; exact hq (hnq t i hpc).1
    exact ⟨by simpa [upd, e] using hl, .inl hq⟩
  | putBack t k hpc => exact ⟨upd_live k (.inl rfl) hl, .inl (hq' (by rw [hpc]; nofun))⟩

theorem owed_event {s : St} {i : Nat} (hinv : Inv s) (ho : owed s i) (hpc : s.pc = .a) :
    ∃ ti, (ti, i) ∈ s.heap := by
  obtain ⟨hl, hq⟩ := ho
  have hreg := hl.resolve_right fun h => by simpa [hpc, outKey] using (hinv.outPc i).1 h
  have hq' := hq.resolve_right fun ⟨_, _, h⟩ => by rw [hpc] at h; cases h
  exact cnt_pos_iff.1 (by rw [avail_has_event s hinv i hreg (.inl hq')]; exact Nat.one_pos)

theorem behind_step {s : St} {op : Op} {i j : Nat} (hinv : Inv s) (htl : TickLt s) (ho : owed s i)
    (hb : behind s i j) (hnd : delivers s op ≠ some i) :
    behind (step s op) i j ∧ delivers s op ≠ some j := by
  obtain ⟨hhand, hlt⟩ := hb
  have hdj : delivers s op ≠ some j := by
    intro hd
    obtain ⟨_, t, item, hpc⟩ := delivers_some hd
    exact hhand (by simp [hpc, handKey])
  refine ⟨⟨?_, ?_⟩, hdj⟩
  · have tr := step_tr s op
    generalize step s op = s' at tr ⊢
    cases tr with
    | skip | insert | remove | feed | feedFire | stale | exhaust | setWaker => exact hhand
    | pollStart | park | yield | selfWake | arm | deliver | drop | putBack => nofun
    | item _ _ _ _ hpc | eof _ _ hpc => simpa [hpc, handKey] using hhand
    | checkout t k rest hpc hpop =>
      -- the event popped has the least ticket, and `i` has one queued that is smaller than all of `j`'s
      rintro ⟨⟩
      obtain ⟨ti, hti⟩ := owed_event hinv ho hpc
      have h1 := hlt ti t (.inl hti) (.inl ((popMin_mem_iff hpop _).2 (.inl rfl)))
      have h2 := (popMin_some hpop).2 _ hti
      simp at h2; omega
  · intro ti tj hi hj
    have hi' := hasTok_step_old ho.1 hnd hi
    rcases hasTok_step hj with hj' | ⟨hj', _⟩
    · exact hlt ti tj hi' hj'
    · have := htl i ti hi'; omega

theorem behind_after_deliver {s : St} {i j : Nat} (hinv : Inv s) (htl : TickLt s) (ho : owed s i)
    (hij : i ≠ j) (hd : delivers s .recvStep = some j) : behind (step s .recvStep) i j := by
  obtain ⟨_, t, item, hpc⟩ := delivers_some hd
  have hz := hinv.in_hand (k := j) (by simp [hpc, handKey])
  refine ⟨?_, ?_⟩
  · simp [step, doRecv, hpc, doC, handKey]
  · intro ti tj hi hj
    have hnd : delivers s .recvStep ≠ some i := fun e => hij (Option.some.inj (e.symm.trans hd))
    have hi' := hasTok_step_old ho.1 hnd hi
    have hti := htl i ti hi'
    simp only [step, doRecv, hpc, doC, hasTok] at hj
    rcases hj with hj | hj | hj
    · simp at hj
      rcases hj with ⟨rfl, _⟩ | hj
      · exact hti
      · have := cnt_pos_iff.2 ⟨_, hj⟩; omega
    · simp [hz.2] at hj
    · simp [handKey] at hj

/-- deliveries of `j` before the first delivery (or removal) of `i` -/
def countJ (i j : Nat) : St → List Op → Nat
  | _, [] => 0
  | s, op :: ops =>
    if delivers s op = some i ∨ op = .remove i then 0
    else (if delivers s op = some j then 1 else 0) + countJ i j (step s op) ops

theorem behind_no_delivery (i j : Nat) (ops : List Op) :
    ∀ s, Inv s → NoneQ s → TickLt s → owed s i → behind s i j → countJ i j s ops = 0 := by
  induction ops with
  | nil => intros; rfl
  | cons op ops ih =>
    intro s hinv hnq htl ho hb
    simp only [countJ]
    split
    · rfl
    · rename_i hstop
      have hnd : delivers s op ≠ some i := fun e => hstop (Or.inl e)
      have hnr : op ≠ .remove i := fun e => hstop (Or.inr e)
      obtain ⟨hb', hdj⟩ := behind_step hinv htl ho hb hnd
      simp only [hdj, ↓reduceIte, Nat.zero_add]
      exact ih _ (step_inv s op hinv) (noneQ_step op hnq) (tickLt_step op htl)
        (owed_step hinv hnq ho hnd hnr) hb'

theorem served_at_most_once (i j : Nat) (hij : i ≠ j) (ops : List Op) :
    ∀ s, Inv s → NoneQ s → TickLt s → owed s i → countJ i j s ops ≤ 1 := by
  induction ops with
  | nil => intros; simp [countJ]
  | cons op ops ih =>
    intro s hinv hnq htl ho
    simp only [countJ]
    split
    · omega
    · rename_i hstop
      have hnd : delivers s op ≠ some i := fun e => hstop (Or.inl e)
      have hnr : op ≠ .remove i := fun e => hstop (Or.inr e)
      have hinv' := step_inv s op hinv
      have hnq' := noneQ_step op hnq
      have htl' := tickLt_step op htl
      have ho' := owed_step hinv hnq ho hnd hnr
      by_cases hd : delivers s op = some j
      · have hop : op = .recvStep := (delivers_some hd).1
        subst hop
        have hb := behind_after_deliver hinv htl ho hij hd
        simp only [hd, ↓reduceIte]
        rw [behind_no_delivery i j ops _ hinv' hnq' htl' ho' hb]
        omega
      · simp only [hd, ↓reduceIte, Nat.zero_add]
        exact ih _ hinv' hnq' htl' ho'

theorem fair_from_init (pre ops : List Op) (i j : Nat) (hij : i ≠ j)
    (ho : owed (pre.foldl step {}) i) : countJ i j (pre.foldl step {}) ops ≤ 1 :=
  have ⟨a, b, c⟩ := List.foldl_inv (P := fun s => Inv s ∧ NoneQ s ∧ TickLt s)
    (fun s op h => ⟨step_inv s op h.1, noneQ_step op h.2.1, tickLt_step op h.2.2⟩) pre
    ⟨inv_init, noneQ_init, tickLt_init⟩
  served_at_most_once i j hij ops _ a b c ho

end Zmq.FQ
