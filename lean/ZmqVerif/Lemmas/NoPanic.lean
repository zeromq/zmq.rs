import ZmqVerif.Model.Decoder
import ZmqVerif.Lemmas.Bytes
/-! No byte string makes the decoder reach a panic site: the parsers keep every `bytes` primitive behind its guard,
and a transition that has the `need` bytes it waited for (`step_spec`) takes exactly those and nothing else. -/
namespace Zmq

theorem parseMechanism_no_panic (f : Bytes) : (parseMechanism f).isPanic = false := by
  unfold parseMechanism
  simp only []
  split
  · rfl
  · split
    · rfl
    · split <;> rfl

/-- `ZmqGreeting::try_from` indexes bytes 0, 9, 10, 11, 12..32 and 32 — all guarded by `len == 64` -/
theorem parseGreeting_no_panic (v : Bytes) : (parseGreeting v).isPanic = false := by
  unfold parseGreeting
  refine Out.guard_no_panic fun hl => ?_
  have hl : v.length = 64 := Decidable.not_not.mp hl
  simp only [index_ok (show 0 < v.length by omega), index_ok (show 9 < v.length by omega),
    index_ok (show 10 < v.length by omega), index_ok (show 11 < v.length by omega),
    index_ok (show 32 < v.length by omega), Out.ok_bind]
  refine Out.guard_no_panic fun _ => ?_
  rw [if_neg (by omega)]
  have hm := parseMechanism_no_panic ((v.drop 12).take 20)
  cases hp : parseMechanism ((v.drop 12).take 20) with
  | ok m => rfl
  | err e => rfl
  | panic s => rw [hp] at hm; cases hm

theorem parseProps_no_panic (fuel : Nat) (buf : Bytes) (acc : Props) :
    (parseProps fuel buf acc).isPanic = false := by
  induction fuel generalizing buf acc with
  | zero => rfl
  | succ f ih =>
    cases buf with
    | nil => rfl
    | cons n rest =>
      simp only [parseProps, List.isEmpty_cons, Bool.false_eq_true, if_false, getU8_cons, Out.ok_bind]
      refine Out.guard_no_panic fun h1 => ?_
      simp only [splitTo_of_le h1, Out.ok_bind]
      refine Out.guard_no_panic fun _ => Out.guard_no_panic fun h4 => ?_
      simp only [getU32_of_le h4, Out.ok_bind]
      refine Out.guard_no_panic fun hv => ?_
      simp only [splitTo_of_le hv, Out.ok_bind]
      exact ih _ _

theorem parseCommand_no_panic (body : Bytes) : (parseCommand body).isPanic = false := by
  cases body with
  | nil => rfl
  | cons n rest =>
    simp only [parseCommand, List.isEmpty_cons, Bool.false_eq_true, if_false, getU8_cons, Out.ok_bind]
    refine Out.guard_no_panic fun h1 => ?_
    simp only [sliceTo_of_le h1, splitTo_of_le h1, Out.ok_bind]
    exact Out.guard_no_panic fun _ => parseProps_no_panic _ _ _

/-- Under its guard a transition never panics: `step_enough`, and the parsers behind the guard do not panic either. -/
theorem step_spec (d : Dec) (buf : Bytes) (h : ¬ buf.length < d.st.need) :
    step d buf = .fail .decode d buf ∨
    ∃ d', d'.held ≤ d.held + d.st.need ∧
      (step d buf = .cont d' (buf.drop d.st.need) ∨ (∃ i, step d buf = .item i d' (buf.drop d.st.need)) ∨
        ∃ e, step d buf = .fail e d' (buf.drop d.st.need)) := by
  rcases step_enough h with e | ⟨d', hh, -, e | ⟨o, e, ho⟩⟩
  · exact .inl e
  · exact .inr ⟨d', hh, .inl e⟩
  · refine .inr ⟨d', hh, .inr ?_⟩
    cases o with
    | ok i => exact .inl ⟨i, e⟩
    | err x => exact .inr ⟨x, e⟩
    | panic s =>
      obtain ⟨x, hx | hx⟩ := ho rfl
      · rw [parseGreeting_no_panic] at hx; cases hx
      · rw [parseCommand_no_panic] at hx; cases hx

theorem step_no_panic (d : Dec) (buf : Bytes) (h : ¬ buf.length < d.st.need) (s : Site) :
    step d buf ≠ .panic s := by
  rcases step_spec d buf h with e | ⟨d', _, e | ⟨i, e⟩ | ⟨x, e⟩⟩ <;> rw [e] <;> simp

theorem decode_no_panic (d : Dec) (buf : Bytes) (s : Site) (d' : Dec) (b' : Bytes) :
    decode d buf ≠ .panic s d' b' := by
  fun_induction decode d buf with
  | case1 => simp
  | case2 d buf hge d1 b1 hs ih => exact ih
  | case3 => simp
  | case4 => simp
  | case5 d buf hge s1 hs => exact absurd hs (step_no_panic d buf hge s1)

theorem run_no_panic (d : Dec) (buf : Bytes) : (run d buf).panic = none := by
  fun_induction run d buf with
  | case1 => rfl
  | case2 => rfl
  | case3 d buf s d' buf' h => exact absurd h (decode_no_panic d buf s d' buf')
  | case4 d buf i d' buf' h r ih => exact ih

end Zmq
