import ZmqVerif.Model.World
namespace Zmq.W
open Zmq

/-! # `proxy()` at socket level: what it forwards is what it took (C15)

`proxyPollT` is `proxyPoll` with a ghost trace of what the loop does: `took ff m` — `recv` on the frontend (`ff`) or
backend returned `m`; `start sid m` — a `send` of `m` on socket `sid` was started; `finished` — the send in progress
completed.  `proxyPollT_erase`: forgetting the trace gives back `proxyPoll`, the function the correspondence check ties
to the real `proxy()`.  `proxyPollT_accepts`: the trace of ANY poll is a word of the forwarding grammar `accepts`, from
the state the future was in to the state it is left in. -/

inductive PEv
  | took (fromFront : Bool) (m : Msg)
  | start (sid : Nat) (m : Msg)
  | finished
deriving Repr, DecidableEq

def proxyPollT : Nat → World → Nat → Nat → Option Nat → Nat → Bool → Msg → FutSt → (World × FutSt × POut) × List PEv
  | 0, w, a, b, c, ph, ff, m, sub => ((w, .proxy a b c ph ff m sub, .pending), [])
  | fuel+1, w, a, b, c, ph, ff, m, sub =>
    if ph = 0 then
      let (w, o) := recvPoll (recvFuel w a) w a
      match o with
      | .ready (.okMsg msg) =>
        match c with
        | some k =>
          let r := proxyPollT fuel w a b c 1 true msg (sendStartFut w k msg)
          (r.1, .took true msg :: .start k msg :: r.2)
        | none =>
          let r := proxyPollT fuel w a b c 2 true msg (sendStartFut w b msg)
          (r.1, .took true msg :: .start b msg :: r.2)
      | .ready v => ((proxyEnd w a b c, .done, .ready v), [])
      | .pending =>
        let (w, o) := recvPoll (recvFuel w b) w b
        match o with
        | .ready (.okMsg msg) =>
          match c with
          | some k =>
            let r := proxyPollT fuel w a b c 1 false msg (sendStartFut w k msg)
            (r.1, .took false msg :: .start k msg :: r.2)
          | none =>
            let r := proxyPollT fuel w a b c 2 false msg (sendStartFut w a msg)
            (r.1, .took false msg :: .start a msg :: r.2)
        | .ready v => ((proxyEnd w a b c, .done, .ready v), [])
        | .pending => ((w, .proxy a b c 0 ff m sub, .pending), [])
    else
      let (w, sub', o) := pollFut w sub
      match o with
      | .pending => ((w, .proxy a b c ph ff m sub', .pending), [])
      | .ready .okUnit =>
        if ph = 1 then
          let r := proxyPollT fuel w a b c 2 ff m (sendStartFut w (if ff then b else a) m)
          (r.1, .finished :: .start (if ff then b else a) m :: r.2)
        else
          let r := proxyPollT fuel w a b c 0 ff [] .done
          (r.1, .finished :: r.2)
      | .ready v => ((proxyEnd w a b c, .done, .ready v), [])

theorem proxyPollT_erase (fuel : Nat) (w : World) (a b : Nat) (c : Option Nat) (ph : Nat) (ff : Bool) (m : Msg) (sub : FutSt) :
    (proxyPollT fuel w a b c ph ff m sub).1 = proxyPoll fuel w a b c ph ff m sub := by
  -- branch by branch: the case's hypotheses send `proxyPoll` down the same branch, the recursive calls agree by induction
  fun_induction proxyPollT fuel w a b c ph ff m sub <;> rw [proxyPoll] <;> simp only [*, ↓reduceIte] <;> assumption

/-- the state of the forwarding loop: `idle` — in `select!`; `cap ff m` — writing the copy of `m` (taken from the
frontend iff `ff`) to the capture socket; `fwd ff m` — forwarding `m` to the other side -/
inductive PSt
  | idle
  | cap (ff : Bool) (m : Msg)
  | fwd (ff : Bool) (m : Msg)
deriving Repr, DecidableEq

def pstOf (ph : Nat) (ff : Bool) (m : Msg) : PSt :=
  if ph = 0 then .idle else if ph = 1 then .cap ff m else .fwd ff m

/-- the forwarding grammar: from `s`, the trace `tr` leads to `s'`.  A message is taken only when idle; what is then
started is a send of THAT message — first on the capture socket if there is one, then on the OTHER side; the next
message is taken only after the forward has finished. -/
def accepts (a b : Nat) (c : Option Nat) : PSt → List PEv → Option PSt
  | s, [] => some s
  | .idle, .took ff m :: .start sid m' :: tr =>
    (match c with
     | some k => if sid = k ∧ m' = m then accepts a b c (.cap ff m) tr else none
     | none => if sid = (if ff then b else a) ∧ m' = m then accepts a b c (.fwd ff m) tr else none)
  | .cap ff m, .finished :: .start sid m' :: tr =>
    if sid = (if ff then b else a) ∧ m' = m then accepts a b c (.fwd ff m) tr else none
  | .fwd _ _, .finished :: tr => accepts a b c .idle tr
  | _, _ => none

@[simp] theorem pstOf_zero (ff : Bool) (m : Msg) : pstOf 0 ff m = .idle := rfl
@[simp] theorem pstOf_one (ff : Bool) (m : Msg) : pstOf 1 ff m = .cap ff m := rfl
@[simp] theorem pstOf_two (ff : Bool) (m : Msg) : pstOf 2 ff m = .fwd ff m := rfl
theorem pstOf_fwd {ph : Nat} (h0 : ph ≠ 0) (h1 : ph ≠ 1) (ff : Bool) (m : Msg) : pstOf ph ff m = .fwd ff m := by
  simp [pstOf, h0, h1]

/-- what a poll leaves behind, as far as the grammar is concerned: the state of the future it returns -/
def Leaves (a b : Nat) (c : Option Nat) (f : FutSt) (s' : PSt) : Prop :=
  ∀ a' b' c' ph' ff' m' sub', f = .proxy a' b' c' ph' ff' m' sub' → a' = a ∧ b' = b ∧ c' = c ∧ s' = pstOf ph' ff' m'

theorem Leaves.proxy (a b : Nat) (c : Option Nat) (ph : Nat) (ff : Bool) (m : Msg) (sub : FutSt) :
    Leaves a b c (.proxy a b c ph ff m sub) (pstOf ph ff m) := by
  intro a' b' c' ph' ff' m' sub' h; cases h; exact ⟨rfl, rfl, rfl, rfl⟩

theorem Leaves.done (a b : Nat) (c : Option Nat) (s : PSt) : Leaves a b c .done s := nofun

theorem accepts_nil (a b : Nat) (c : Option Nat) (s : PSt) : accepts a b c s [] = some s := by
  simp [accepts]
theorem accepts_took_cap (a b : Nat) (k : Nat) (ff : Bool) (m : Msg) (tr : List PEv) :
    accepts a b (some k) .idle (.took ff m :: .start k m :: tr) = accepts a b (some k) (.cap ff m) tr := by
  simp [accepts]
theorem accepts_took_fwd (a b : Nat) (ff : Bool) (m : Msg) (tr : List PEv) :
    accepts a b none .idle (.took ff m :: .start (if ff then b else a) m :: tr) = accepts a b none (.fwd ff m) tr := by
  simp [accepts]
theorem accepts_cap_fwd (a b : Nat) (c : Option Nat) (ff : Bool) (m : Msg) (tr : List PEv) :
    accepts a b c (.cap ff m) (.finished :: .start (if ff then b else a) m :: tr) = accepts a b c (.fwd ff m) tr := by
  simp [accepts]
theorem accepts_fwd_idle (a b : Nat) (c : Option Nat) (ff : Bool) (m : Msg) (tr : List PEv) :
    accepts a b c (.fwd ff m) (.finished :: tr) = accepts a b c .idle tr := by
  simp [accepts]

/-- **Every poll of the proxy future is a word of the forwarding grammar** — from the state the future was in to the
state of the future it returns: whatever the two sockets' connections deliver during the poll, however many messages
it gets through, whether sends complete or block. -/
theorem proxyPollT_accepts (fuel : Nat) (w : World) (a b : Nat) (c : Option Nat) (ph : Nat) (ff : Bool) (m : Msg) (sub : FutSt) :
    ∃ s', accepts a b c (pstOf ph ff m) (proxyPollT fuel w a b c ph ff m sub).2 = some s' ∧
      Leaves a b c (proxyPollT fuel w a b c ph ff m sub).1.2.1 s' := by
  -- along the traced function: a poll that goes on prefixes the word of the rest with one step of the grammar
  fun_induction proxyPollT fuel w a b c ph ff m sub with
  | case1 | case8 | case9 => exact ⟨_, accepts_nil _ _ _ _, Leaves.proxy _ _ _ _ _ _ _⟩
  | case4 | case7 | case12 => exact ⟨_, accepts_nil _ _ _ _, Leaves.done _ _ _ _⟩
  | case2 fuel w a b ff m sub w1 msg k _ ih =>
    obtain ⟨s', h1, h2⟩ := ih
    exact ⟨s', (accepts_took_cap a b k true msg _).trans h1, h2⟩
  | case3 fuel w a b ff m sub w1 msg _ ih =>
    obtain ⟨s', h1, h2⟩ := ih
    exact ⟨s', (accepts_took_fwd a b true msg _).trans h1, h2⟩
  | case5 fuel w a b ff m sub w1 w2 msg k _ _ ih =>
    obtain ⟨s', h1, h2⟩ := ih
    exact ⟨s', (accepts_took_cap a b k false msg _).trans h1, h2⟩
  | case6 fuel w a b ff m sub w1 w2 msg _ _ ih =>
    obtain ⟨s', h1, h2⟩ := ih
    exact ⟨s', (accepts_took_fwd a b false msg _).trans h1, h2⟩
  | case10 fuel w a b c ff m sub w1 sub' _ _ _ ih =>
    obtain ⟨s', h1, h2⟩ := ih
    exact ⟨s', (accepts_cap_fwd a b c ff m _).trans h1, h2⟩
  | case11 fuel w a b c ph ff m sub h0 w1 sub' h1 _ _ ih =>
    obtain ⟨s', h2, h3⟩ := ih
    exact ⟨s', by rw [pstOf_fwd h0 h1]; exact (accepts_fwd_idle a b c ff m _).trans h2, h3⟩

/-- the messages `recv` returned during the trace, with the side they came from -/
def tookOf : List PEv → List (Bool × Msg)
  | [] => []
  | .took ff m :: tr => (ff, m) :: tookOf tr
  | _ :: tr => tookOf tr

/-- the sends STARTED towards one of the two sides (socket, message — read off the `start` events themselves) -/
def fwdOf (c : Option Nat) : PSt → List PEv → List (Nat × Msg)
  | .idle, .took ff m :: .start sid m' :: tr =>
    (match c with
     | some _ => fwdOf c (.cap ff m) tr
     | none => (sid, m') :: fwdOf c (.fwd ff m) tr)
  | .cap ff m, .finished :: .start sid m' :: tr => (sid, m') :: fwdOf c (.fwd ff m) tr
  | .fwd _ _, .finished :: tr => fwdOf c .idle tr
  | _, _ => []

/-- the sends started on the capture socket -/
def capOf (c : Option Nat) : PSt → List PEv → List (Nat × Msg)
  | .idle, .took ff m :: .start sid m' :: tr =>
    (match c with
     | some _ => (sid, m') :: capOf c (.cap ff m) tr
     | none => capOf c (.fwd ff m) tr)
  | .cap ff m, .finished :: .start _ _ :: tr => capOf c (.fwd ff m) tr
  | .fwd _ _, .finished :: tr => capOf c .idle tr
  | _, _ => []

/-- the message in hand that has not been forwarded yet (its copy is being written to the capture socket) -/
def PSt.hand : PSt → List (Bool × Msg)
  | .cap ff m => [(ff, m)]
  | _ => []

/-- where a message taken from the frontend (`true`) / backend goes -/
def dest (a b : Nat) (x : Bool × Msg) : Nat × Msg := (if x.1 then b else a, x.2)

theorem fwdOf_nil (c : Option Nat) (s : PSt) : fwdOf c s [] = [] := by cases s <;> rfl
theorem fwdOf_took_some (k : Nat) (ff : Bool) (m m' : Msg) (sid : Nat) (tr : List PEv) :
    fwdOf (some k) .idle (.took ff m :: .start sid m' :: tr) = fwdOf (some k) (.cap ff m) tr := rfl
theorem fwdOf_took_none (ff : Bool) (m m' : Msg) (sid : Nat) (tr : List PEv) :
    fwdOf none .idle (.took ff m :: .start sid m' :: tr) = (sid, m') :: fwdOf none (.fwd ff m) tr := rfl
theorem fwdOf_cap (c : Option Nat) (ff : Bool) (m m' : Msg) (sid : Nat) (tr : List PEv) :
    fwdOf c (.cap ff m) (.finished :: .start sid m' :: tr) = (sid, m') :: fwdOf c (.fwd ff m) tr := rfl
theorem fwdOf_fwd (c : Option Nat) (ff : Bool) (m : Msg) (tr : List PEv) :
    fwdOf c (.fwd ff m) (.finished :: tr) = fwdOf c .idle tr := rfl

theorem capOf_nil (c : Option Nat) (s : PSt) : capOf c s [] = [] := by cases s <;> rfl
theorem capOf_took_some (k : Nat) (ff : Bool) (m m' : Msg) (sid : Nat) (tr : List PEv) :
    capOf (some k) .idle (.took ff m :: .start sid m' :: tr) = (sid, m') :: capOf (some k) (.cap ff m) tr := rfl
theorem capOf_took_none (ff : Bool) (m m' : Msg) (sid : Nat) (tr : List PEv) :
    capOf none .idle (.took ff m :: .start sid m' :: tr) = capOf none (.fwd ff m) tr := rfl
theorem capOf_cap (c : Option Nat) (ff : Bool) (m m' : Msg) (sid : Nat) (tr : List PEv) :
    capOf c (.cap ff m) (.finished :: .start sid m' :: tr) = capOf c (.fwd ff m) tr := rfl
theorem capOf_fwd (c : Option Nat) (ff : Bool) (m : Msg) (tr : List PEv) :
    capOf c (.fwd ff m) (.finished :: tr) = capOf c .idle tr := rfl

/-- `accepts a b c s tr = some s'` as a derivation: the five rules of the grammar.  What the grammar implies is proved by
induction on this. -/
inductive Accepted (a b : Nat) (c : Option Nat) : PSt → List PEv → PSt → Prop
  | nil (s : PSt) : Accepted a b c s [] s
  | took_cap {k : Nat} {ff : Bool} {m : Msg} {tr : List PEv} {s' : PSt} : c = some k → Accepted a b c (.cap ff m) tr s' →
      Accepted a b c .idle (.took ff m :: .start k m :: tr) s'
  | took_fwd {ff : Bool} {m : Msg} {tr : List PEv} {s' : PSt} : c = none → Accepted a b c (.fwd ff m) tr s' →
      Accepted a b c .idle (.took ff m :: .start (if ff then b else a) m :: tr) s'
  | cap_fwd {ff : Bool} {m : Msg} {tr : List PEv} {s' : PSt} : Accepted a b c (.fwd ff m) tr s' →
      Accepted a b c (.cap ff m) (.finished :: .start (if ff then b else a) m :: tr) s'
  | fwd_idle {ff : Bool} {m : Msg} {tr : List PEv} {s' : PSt} : Accepted a b c .idle tr s' →
      Accepted a b c (.fwd ff m) (.finished :: tr) s'

theorem Accepted.of_accepts {a b : Nat} {c : Option Nat} {s : PSt} {tr : List PEv} {s' : PSt} :
    accepts a b c s tr = some s' → Accepted a b c s tr s' := by
  fun_induction accepts a b c s tr with
  | case1 s => intro h; cases h; exact .nil _
  | case2 ff m sid m' tr k hc hk ih => subst hc; obtain ⟨rfl, rfl⟩ := hk; exact fun h => .took_cap rfl (ih h)
  | case4 ff m sid m' tr hc hk ih => subst hc; obtain ⟨rfl, rfl⟩ := hk; exact fun h => .took_fwd rfl (ih h)
  | case6 ff m sid m' tr hk ih => obtain ⟨rfl, rfl⟩ := hk; exact fun h => .cap_fwd (ih h)
  | case8 ff m tr ih => exact fun h => .fwd_idle (ih h)
  | case3 | case5 | case7 | case9 => nofun

/-- **Conservation along any accepted trace**: what was in hand, followed by everything `recv` returned, is — message by
message, in order — what was sent on towards the OTHER side, followed by what is in hand now. -/
theorem accepts_conservation (a b : Nat) (c : Option Nat) (s : PSt) (tr : List PEv) (s' : PSt) :
    accepts a b c s tr = some s' →
    (s.hand ++ tookOf tr).map (dest a b) = fwdOf c s tr ++ s'.hand.map (dest a b) := by
  intro h
  replace h := Accepted.of_accepts h
  induction h with
  | nil s => rw [fwdOf_nil]; simp [tookOf]
  | took_cap hc _ ih => subst hc; rw [fwdOf_took_some, ← ih]; rfl
  | took_fwd hc _ ih => subst hc; rw [fwdOf_took_none, List.cons_append, ← ih]; rfl
  | cap_fwd _ ih => rw [fwdOf_cap, List.cons_append, ← ih]; rfl
  | fwd_idle _ ih => rw [fwdOf_fwd, ← ih]; rfl

/-- the capture socket is sent a copy of EVERY message taken, in the order taken (and nothing when there is none) -/
theorem accepts_capture (a b : Nat) (c : Option Nat) (s : PSt) (tr : List PEv) (s' : PSt) :
    accepts a b c s tr = some s' →
    capOf c s tr = (match c with
                    | some k => (tookOf tr).map (fun x => (k, x.2))
                    | none => []) := by
  intro h
  replace h := Accepted.of_accepts h
  induction h with
  | nil s => rw [capOf_nil]; cases c <;> rfl
  | took_cap hc _ ih => subst hc; rw [capOf_took_some, ih]; rfl
  | took_fwd hc _ ih => subst hc; rw [capOf_took_none]; exact ih
  | cap_fwd _ ih => rw [capOf_cap, ih]; rfl
  | fwd_idle _ ih => rw [capOf_fwd, ih]; rfl

theorem accepts_none_hand (a b : Nat) (s : PSt) (tr : List PEv) (s' : PSt) :
    accepts a b none s tr = some s' → s.hand = [] → s'.hand = [] := by
  intro h
  replace h := Accepted.of_accepts h
  induction h with
  | nil s => exact id
  | took_cap hc => cases hc
  | took_fwd _ _ ih => exact fun _ => ih rfl
  | cap_fwd => nofun
  | fwd_idle _ ih => exact fun _ => ih rfl

theorem accepts_append (a b : Nat) (c : Option Nat) (s : PSt) (tr1 tr2 : List PEv) (s1 : PSt) :
    accepts a b c s tr1 = some s1 → accepts a b c s (tr1 ++ tr2) = accepts a b c s1 tr2 := by
  intro h
  replace h := Accepted.of_accepts h
  induction h with
  | nil s => rfl
  | took_cap hc _ ih => subst hc; rw [List.cons_append, List.cons_append, accepts_took_cap, ih]
  | took_fwd hc _ ih => subst hc; rw [List.cons_append, List.cons_append, accepts_took_fwd, ih]
  | cap_fwd _ ih => rw [List.cons_append, List.cons_append, accepts_cap_fwd, ih]
  | fwd_idle _ ih => rw [List.cons_append, accepts_fwd_idle, ih]

/-- A history of the proxy future: any number of polls, each in an ARBITRARY world (whatever happened since the last
poll — bytes arrived, connections came and went, other calls ran), each starting from the future the previous poll
returned; `tr` is the concatenation of the polls' traces. -/
inductive ProxyRun (a b : Nat) (c : Option Nat) : FutSt → List PEv → FutSt → Prop
  | nil (f : FutSt) : ProxyRun a b c f [] f
  | poll (w : World) (ph : Nat) (ff : Bool) (m : Msg) (sub : FutSt) (tr : List PEv) (f' : FutSt) :
      ProxyRun a b c (proxyPollT 64 w a b c ph ff m sub).1.2.1 tr f' →
      ProxyRun a b c (.proxy a b c ph ff m sub) ((proxyPollT 64 w a b c ph ff m sub).2 ++ tr) f'

theorem ProxyRun.grammar {a b : Nat} {c : Option Nat} {f f' : FutSt} {tr : List PEv} (h : ProxyRun a b c f tr f')
    (s : PSt) (hs : Leaves a b c f s) : ∃ s', Zmq.W.accepts a b c s tr = some s' ∧ Leaves a b c f' s' := by
  induction h generalizing s with
  | nil f => exact ⟨s, accepts_nil _ _ _ _, hs⟩
  | poll w ph ff m sub tr f' h ih =>
    obtain rfl : s = pstOf ph ff m := (hs _ _ _ _ _ _ _ rfl).2.2.2
    obtain ⟨s1, h1, h2⟩ := proxyPollT_accepts 64 w a b c ph ff m sub
    rw [accepts_append _ _ _ _ _ _ _ h1]
    exact ih s1 h2

theorem ProxyRun.accepts {a b : Nat} {c : Option Nat} {f f' : FutSt} {tr : List PEv} (h : ProxyRun a b c f tr f')
    (s : PSt) (hs : Leaves a b c f s) (hp : ∃ ph ff m sub, f = .proxy a b c ph ff m sub) :
    ∃ s', Zmq.W.accepts a b c s tr = some s' ∧
      (∀ ph' ff' m' sub', f' = .proxy a b c ph' ff' m' sub' → s' = pstOf ph' ff' m') :=
  -- `hp` is not needed: a run from a future that is no proxy future is empty
  let ⟨s', h1, h2⟩ := h.grammar s hs
  ⟨s', h1, fun _ _ _ _ e => (h2 _ _ _ _ _ _ _ e).2.2.2⟩

end Zmq.W
