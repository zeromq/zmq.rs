import ZmqVerif.Lemmas.WorldSend
namespace Zmq.W
open Zmq

/-! # The first poll of every `send`: who is chosen, and from there `sendStep` -/

/-- **`ReqSocket::send`, first poll, against the wires.**  Whatever the rotation looks like (stale entries of lost
servers are skipped): a send that is refused hands the message back and touches no wire; otherwise exactly one
registered peer `k` is chosen and the send is in progress to it with the encoding of `[delimiter] ++ message` —
`SendInv` holds with `base` = that connection's outgoing stream at the start (so by `sendToPoll_spec`, over all
later polls, the request goes out behind EXACTLY ONE delimiter on exactly that connection). -/
theorem reqSendStart_spec (fuel : Nat) (w : World) (sid : Nat) (m : Msg) (s : Socket) (hs : getSock w sid = some s)
    (w' : World) (f' : FutSt) (o : POut) (h : reqSendStart fuel w sid m = (w', f', o)) :
    match (generalizing := false) f', o with
    | .sendTo _ k st _, .pending =>
        ∃ wr, ilookup s.peers k = some wr ∧
          SendInv w' sid k wr.pipe (outOf w.pipes wr) (encodeMsg (reqWrap m)) st ∧
          ∀ j, j ≠ wr.pipe → wOf w'.pipes j = wOf w.pipes j
    | _, .ready .okUnit =>
        ∃ k wr, ilookup s.peers k = some wr ∧
          (wOf w'.pipes wr.pipe).wire = outOf w.pipes wr ++ encodeMsg (reqWrap m) ∧
          ∀ j, j ≠ wr.pipe → wOf w'.pipes j = wOf w.pipes j
    | _, .ready (.errReturn m') => m' = m ∧ ∀ j, wOf w'.pipes j = wOf w.pipes j
    | _, .ready (.err _) => True
    | _, _ => False := by
  revert h
  fun_induction reqSendStart fuel w sid m generalizing s
  case case1 => rintro ⟨⟩; trivial
  case case2 hn => cases hn.symm.trans hs
  case case3 => rintro ⟨⟩; exact ⟨rfl, fun _ => rfl⟩
  case case4 => rintro ⟨⟩; exact ⟨rfl, fun _ => rfl⟩
  case case5 w sid m s' hs' _ k rest _ hl _ =>
    cases hs.symm.trans hs'
    obtain ⟨wr, hp⟩ := Option.isSome_iff_exists.mp hl
    exact fun h => sendStep_start (getSock_setSock_same w sid { s' with rr := rest ++ [k] }) hp
      ((sendToPoll_eq ..).symm.trans h) fun hfr =>
        ⟨fun _ hi => ⟨wr, hp, hi, hfr⟩, fun hw => ⟨k, wr, hp, hw, hfr⟩, trivial⟩
  case case6 s' hs' _ k rest _ _ ih =>
    cases hs.symm.trans hs'
    exact ih { s' with rr := rest } (getSock_setSock_same _ _ _)

/-- **`RepSocket::send`, first poll, against the wires**: without a request there is nothing to answer (message handed
back, no wire touched); otherwise the send is in progress to EXACTLY the connection the request came from
(`s.current`), with the encoding of `stored envelope ++ reply` (`repReply`). -/
theorem repSendStart_spec (w : World) (sid : Nat) (m : Msg) (s : Socket) (hs : getSock w sid = some s)
    (w' : World) (f' : FutSt) (o : POut) (h : repSendStart w sid m = (w', f', o)) :
    match (generalizing := false) f', o with
    | .sendTo _ k st _, .pending =>
        s.current = some k ∧ ∃ wr, ilookup s.peers k = some wr ∧
          SendInv w' sid k wr.pipe (outOf w.pipes wr) (encodeMsg (repReply (s.envelope.getD []) m)) st ∧
          ∀ j, j ≠ wr.pipe → wOf w'.pipes j = wOf w.pipes j
    | _, .ready .okUnit =>
        ∃ k wr, s.current = some k ∧ ilookup s.peers k = some wr ∧
          (wOf w'.pipes wr.pipe).wire = outOf w.pipes wr ++ encodeMsg (repReply (s.envelope.getD []) m) ∧
          ∀ j, j ≠ wr.pipe → wOf w'.pipes j = wOf w.pipes j
    | _, .ready (.errReturn m') => m' = m ∧ ∀ j, wOf w'.pipes j = wOf w.pipes j
    | _, .ready (.err _) => True
    | _, _ => False := by
  revert h
  fun_cases repSendStart w sid m
  case case1 hn => cases hn.symm.trans hs
  case case2 => rintro ⟨⟩; exact ⟨rfl, fun _ => rfl⟩
  case case3 s' hs' k hc _ hl _ _ =>
    cases hs.symm.trans hs'
    obtain ⟨wr, hp⟩ := Option.isSome_iff_exists.mp hl
    exact fun h => sendStep_start (getSock_setSock_same w sid { s with current := none, envelope := none }) hp
      ((sendToPoll_eq ..).symm.trans h) fun hfr =>
        ⟨fun _ hi => ⟨hc, wr, hp, hi, hfr⟩, fun hw => ⟨k, wr, hc, hp, hw, hfr⟩, trivial⟩
  case case4 => rintro ⟨⟩; exact ⟨rfl, fun _ => rfl⟩

theorem routerSendStart_cons (w : World) (sid : Nat) (t : Bytes) (m : Msg) (hm : m ≠ []) :
    routerSendStart w sid (t :: m) =
      if t.isEmpty then (w, .done, .ready (.err .other))
      else if t.length > 255 then (w, .done, .ready (.err .peerIdentity))
      else match getSock w sid with
        | none => (w, .done, .ready (.err .other))
        | some s =>
          if (ilookup s.peers t).isSome then sendToPoll w sid t (.feeding (encodeMsg m)) false
          else (w, .done, .ready (.err .other)) := by
  have hl : ¬ (t :: m).length ≤ 1 := by
    cases m with
    | nil => exact absurd rfl hm
    | cons a r => simp
  simp only [routerSendStart, hl, ↓reduceIte, routerOut]
  rfl

theorem routerSendStart_known (w : World) (sid : Nat) (s : Socket) (t : Bytes) (m : Msg) (wr : Wr)
    (hs : getSock w sid = some s) (hm : m ≠ []) (ht : t ≠ []) (hlen : t.length ≤ 255)
    (hp : ilookup s.peers t = some wr) :
    routerSendStart w sid (t :: m) = sendToPoll w sid t (.feeding (encodeMsg m)) false := by
  rw [routerSendStart_cons _ _ _ _ hm, if_neg (by simpa using ht), if_neg (by omega)]
  simp only [hs, hp, Option.isSome_some, ↓reduceIte]

theorem routerSendStart_unknown (w : World) (sid : Nat) (s : Socket) (t : Bytes) (m : Msg)
    (hs : getSock w sid = some s) (hm : m ≠ []) (hp : ilookup s.peers t = none) :
    routerSendStart w sid (t :: m) = (w, .done, .ready (.err .other)) ∨
    routerSendStart w sid (t :: m) = (w, .done, .ready (.err .peerIdentity)) := by
  rw [routerSendStart_cons _ _ _ _ hm]
  by_cases h1 : t.isEmpty
  · exact .inl (if_pos h1)
  · rw [if_neg h1]
    by_cases h2 : t.length > 255
    · exact .inr (if_pos h2)
    · rw [if_neg h2]
      exact .inl (by simp only [hs, hp, Option.isSome_none, Bool.false_eq_true, ↓reduceIte])

/-- **`RouterSocket::send`, first poll, against the wires**: a message of two or more frames goes — minus its first
frame — to EXACTLY the connected peer whose identity equals that frame; if no such peer is connected the send fails
and NOTHING is written to any connection. -/
theorem routerSendStart_spec (w : World) (sid : Nat) (t : Bytes) (rest : Msg) (hne : rest ≠ []) (s : Socket)
    (hs : getSock w sid = some s) (w' : World) (f' : FutSt) (o : POut)
    (h : routerSendStart w sid (t :: rest) = (w', f', o)) :
    match (generalizing := false) f', o with
    | .sendTo _ k st _, .pending =>
        k = t ∧ ∃ wr, ilookup s.peers t = some wr ∧
          SendInv w' sid t wr.pipe (outOf w.pipes wr) (encodeMsg rest) st ∧
          ∀ j, j ≠ wr.pipe → wOf w'.pipes j = wOf w.pipes j
    | _, .ready .okUnit =>
        ∃ wr, ilookup s.peers t = some wr ∧
          (wOf w'.pipes wr.pipe).wire = outOf w.pipes wr ++ encodeMsg rest ∧
          ∀ j, j ≠ wr.pipe → wOf w'.pipes j = wOf w.pipes j
    | _, .ready (.err _) => (ilookup s.peers t = none ∨ t = [] ∨ t.length > 255) → ∀ j, wOf w'.pipes j = wOf w.pipes j
    | _, _ => False := by
  cases hp : ilookup s.peers t with
  | none =>
    rcases routerSendStart_unknown w sid s t rest hs hne hp with e | e <;>
      (cases e.symm.trans h; exact fun _ _ => rfl)
  | some wr =>
    by_cases ht : t = []
    · rw [routerSendStart_cons _ _ _ _ hne, if_pos (by rw [ht]; rfl)] at h
      cases h; exact fun _ _ => rfl
    · by_cases hl : t.length > 255
      · rw [routerSendStart_cons _ _ _ _ hne, if_neg (by simpa using ht), if_pos hl] at h
        cases h; exact fun _ _ => rfl
      · rw [routerSendStart_known w sid s t rest wr hs hne ht (by omega) hp] at h
        refine sendStep_start hs hp ((sendToPoll_eq ..).symm.trans h) fun hfr =>
          ⟨fun _ hi => ⟨rfl, wr, rfl, hi, hfr⟩, fun hw => ⟨wr, rfl, hw, hfr⟩, ?_⟩
        rintro (hn | he | hg)
        · cases hn
        · exact absurd he ht
        · exact absurd hg hl

/-- the first entry of the rotation queue that is still registered, with what precedes it (all vanished) and what
follows it -/
def FirstLive (s : Socket) (k : Ident) (rest : List Ident) : Prop :=
  ∃ stale, s.rr = stale ++ k :: rest ∧ (∀ j ∈ stale, ilookup s.peers j = none) ∧ (ilookup s.peers k).isSome

theorem FirstLive.skip {s : Socket} {j k : Ident} {rr rest : List Ident} (hrr : s.rr = j :: rr)
    (hj : ilookup s.peers j = none) (h : FirstLive { s with rr := rr } k rest) : FirstLive s k rest := by
  obtain ⟨stale, h1, h2, h3⟩ := h
  exact ⟨j :: stale, by rw [hrr, show rr = _ from h1]; rfl, List.forall_mem_cons.mpr ⟨hj, h2⟩, h3⟩

theorem FirstLive.peer {s : Socket} {k : Ident} {rest : List Ident} (h : FirstLive s k rest) :
    ∃ wr, ilookup s.peers k = some wr :=
  let ⟨_, _, _, hl⟩ := h; Option.isSome_iff_exists.mp hl

/-- **The first poll of `send_round_robin` IS the walk to the first live entry of the rotation queue followed by
`sendStep` to it**, from a world that differs only in this socket's queue: the vanished entries in front are dropped,
what follows stays.  (The third case is the fuel of the walk.) -/
theorem sendRRPoll_none (fuel : Nat) (w : World) (sid : Nat) (m : Msg) (s : Socket) (hs : getSock w sid = some s) :
    (∃ k rest w0, FirstLive s k rest ∧ w0.pipes = w.pipes ∧ getSock w0 sid = some { s with rr := rest } ∧
      sendRRPoll fuel w sid m none =
        sendStep (fun st => .sendRR sid m (some (k, st))) (fun s => { s with rr := s.rr ++ [k] }) w0 sid k
          (.feeding (encodeMsg m))) ∨
    (∃ w0, w0.pipes = w.pipes ∧ (∀ j ∈ s.rr, ilookup s.peers j = none) ∧
      sendRRPoll fuel w sid m none = (w0, .done, .ready (.errReturn m))) ∨
    (∃ w0, sendRRPoll fuel w sid m none = (w0, .done, .ready (.err .other))) := by
  induction fuel generalizing w s with
  | zero => exact .inr (.inr ⟨w, rfl⟩)
  | succ fuel ih =>
    -- the poll under a name: unfolded once, not in each of the three cases
    generalize hr : sendRRPoll (fuel + 1) w sid m none = r
    rw [sendRRPoll] at hr
    simp only [hs] at hr
    cases hrr : s.rr with
    | nil => rw [hrr] at hr; exact .inr (.inl ⟨w, rfl, nofun, hr.symm⟩)
    | cons k rest =>
      rw [hrr] at hr
      cases hp : ilookup s.peers k with
      | none =>
        simp only [hp, Option.isSome_none, Bool.false_eq_true, ↓reduceIte] at hr
        subst hr
        rcases ih (setSock w sid { s with rr := rest }) { s with rr := rest } (getSock_setSock_same _ _ _) with
          ⟨k', rest', w0, h1, h2, h3, h4⟩ | ⟨w0, h1, h2, h3⟩ | ⟨w0, h1⟩
        · exact .inl ⟨k', rest', w0, h1.skip hrr hp, h2, h3, h4⟩
        · exact .inr (.inl ⟨w0, h1, List.forall_mem_cons.mpr ⟨hp, h2⟩, h3⟩)
        · exact .inr (.inr ⟨w0, h1⟩)
      | some wr =>
        simp only [hp, Option.isSome_some, ↓reduceIte] at hr
        subst hr
        cases fuel with
        | zero => exact .inr (.inr ⟨_, rfl⟩)
        | succ fuel =>
          exact .inl ⟨k, rest, setSock w sid { s with rr := rest }, ⟨[], by simp [hrr], nofun, by simp [hp]⟩, rfl,
            getSock_setSock_same _ _ _, sendRRPoll_some_eq ..⟩

/-- **`send_round_robin` (PUSH, DEALER), first poll, against the wires**: entries of vanished peers are skipped; with no
live peer the message is handed back intact and NOTHING is written; otherwise exactly one registered peer is chosen
and the send is in progress to it with the encoding of the message, unchanged (`SendInv`, `base` = that connection's
outgoing stream at the start). -/
theorem sendRRStart_spec (fuel : Nat) (w : World) (sid : Nat) (m : Msg) (s : Socket) (hs : getSock w sid = some s)
    (w' : World) (f' : FutSt) (o : POut) (h : sendRRPoll fuel w sid m none = (w', f', o)) :
    match (generalizing := false) f', o with
    | .sendRR _ _ (some (k, st)), .pending =>
        ∃ wr, ilookup s.peers k = some wr ∧
          SendInv w' sid k wr.pipe (outOf w.pipes wr) (encodeMsg m) st ∧
          ∀ j, j ≠ wr.pipe → wOf w'.pipes j = wOf w.pipes j
    | _, .ready .okUnit =>
        ∃ k wr, ilookup s.peers k = some wr ∧
          (wOf w'.pipes wr.pipe).wire = outOf w.pipes wr ++ encodeMsg m ∧
          ∀ j, j ≠ wr.pipe → wOf w'.pipes j = wOf w.pipes j
    | _, .ready (.errReturn m') => m' = m ∧ ∀ j, wOf w'.pipes j = wOf w.pipes j
    | _, .ready (.err _) => True
    | _, _ => False := by
  rcases sendRRPoll_none fuel w sid m s hs with ⟨k, rest, w0, hfl, hps, hs0, he⟩ | ⟨w0, hps, _, he⟩ | ⟨w0, he⟩
  · obtain ⟨wr, hp⟩ := hfl.peer
    rw [← hps]
    exact sendStep_start hs0 hp (he.symm.trans h) fun hfr =>
      ⟨fun _ hi => ⟨wr, hp, hi, hfr⟩, fun hw => ⟨k, wr, hp, hw, hfr⟩, trivial⟩
  · cases h.symm.trans he; exact ⟨rfl, fun j => by rw [hps]⟩
  · cases h.symm.trans he; trivial

end Zmq.W
