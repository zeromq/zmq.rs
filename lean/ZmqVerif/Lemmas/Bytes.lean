import ZmqVerif.Model.Basic
namespace Zmq

@[simp] theorem be_length (k n : Nat) : (be k n).length = k := by
  induction k with
  | zero => rfl
  | succ k ih => simp [be, ih]

theorem beNat_be (k n : Nat) : beNat (be k n) = n % 256 ^ k := by
  induction k with
  | zero => simp [be, beNat, Nat.mod_one]
  | succ k ih =>
    simp only [be, beNat, be_length, ih]
    have h1 : (UInt8.ofNat (n / 256 ^ k % 256)).toNat = n / 256 ^ k % 256 := by
      simp [UInt8.toNat_ofNat']
    rw [h1]
    rw [Nat.pow_succ, Nat.mod_mul, Nat.mul_comm (256 ^ k)]
    omega

theorem beNat_be_of_lt {k n : Nat} (h : n < 256 ^ k) : beNat (be k n) = n := by
  rw [beNat_be]; exact Nat.mod_eq_of_lt h

theorem beNat_lt (b : Bytes) : beNat b < 256 ^ b.length := by
  induction b with
  | nil => simp [beNat]
  | cons x xs ih =>
    have := x.toNat_lt
    simp only [beNat, List.length_cons, Nat.pow_succ]
    calc x.toNat * 256 ^ xs.length + beNat xs
        < (x.toNat + 1) * 256 ^ xs.length := by rw [Nat.add_mul]; omega
      _ ≤ 256 ^ xs.length * 256 := by rw [Nat.mul_comm]; exact Nat.mul_le_mul_left _ (by omega)

theorem ofNat_toNat_small (n : Nat) (h : n ≤ 255) : (UInt8.ofNat n).toNat = n := by
  simp [UInt8.toNat_ofNat']; omega

theorem u8_ofNat_ne_zero (n : Nat) (h1 : 1 ≤ n) (h2 : n ≤ 255) : UInt8.ofNat n ≠ 0 := by
  intro e
  have := congrArg UInt8.toNat e
  rw [ofNat_toNat_small n h2] at this
  simp at this; omega

@[simp] theorem Out.ok_bind {α β} (a : α) (f : α → Out β) : (Out.ok a >>= f) = f a := rfl

@[simp] theorem getU8_cons (b : UInt8) (r : Bytes) : getU8 (b :: r) = .ok (b, r) := rfl

theorem splitTo_of_le {buf : Bytes} {n : Nat} (h : ¬ buf.length < n) :
    splitTo buf n = .ok (buf.take n, buf.drop n) := if_neg h

theorem sliceTo_of_le {buf : Bytes} {n : Nat} (h : ¬ buf.length < n) : sliceTo buf n = .ok (buf.take n) :=
  if_neg h

theorem getU32_of_le {buf : Bytes} (h : ¬ buf.length < 4) :
    getU32 buf = .ok (beNat (buf.take 4), buf.drop 4) := if_neg h

theorem index_ok {v : Bytes} {i : Nat} (h : i < v.length) : index v i = .ok v[i] := by
  simp [index, List.getElem?_eq_getElem h]

theorem Out.guard_no_panic {α} {c : Prop} [Decidable c] {e : Err} {x : Out α}
    (h : ¬ c → x.isPanic = false) : (if c then .err e else x).isPanic = false := by
  split
  · rfl
  · exact h ‹_›

end Zmq
