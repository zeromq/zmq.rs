import ZmqVerif.Lemmas.FQHeap
/-! The model as a transition system: every `step s op` is one of the atomic transitions of `Tr`
(or leaves the state alone), each with its guard and its post-state written out. -/
namespace Zmq.FQ

def live (s : St) (k : Nat) : Prop := s.reg k = .inMap ∨ s.reg k = .out

theorem upd_self {α} (f : Nat → α) (k : Nat) : upd f k (f k) = f := by
  funext j; unfold upd; split <;> simp [*]

theorem upd_peer_q (peer : Nat → Peer) (k : Nat) (c a) (j : Nat) :
    (upd peer k { q := (peer k).q, closed := c, armed := a } j).q = (peer j).q := by
  unfold upd; split
  · subst j; rfl
  · rfl

theorem upd_peer_armed (peer : Nat → Peer) (k : Nat) (q c) (j : Nat) :
    (upd peer k { q := q, closed := c, armed := (peer k).armed } j).armed = (peer j).armed := by
  unfold upd; split
  · subst j; rfl
  · rfl

theorem upd_live {reg : Nat → Reg} {j : Nat} (k : Nat) {r : Reg} (hr : r = .inMap ∨ r = .out)
    (hl : reg j = .inMap ∨ reg j = .out) : upd reg k r j = .inMap ∨ upd reg k r j = .out := by
  unfold upd; split <;> assumption

/-- For preservation proofs: `cases` on `Tr s op (step s op)` (`step_tr`) instead of unfolding
`doInsert … doC`, `ready`, `fire`.  It over-approximates `step` on purpose (`skip` has no guard,
`feed`/`feedFire` do not tie `op` to `k`, `l`, `c`), so it does not say what a GIVEN op does in a
given state: such forward facts are proved by unfolding `step`. -/
inductive Tr (s : St) : Op → St → Prop
  | skip (op) : Tr s op s
  | insert (k) (hreg : s.reg k = .absent) : Tr s (.insert k)
      { s with reg := upd s.reg k .inMap, heap := (s.counter, k) :: s.heap, counter := s.counter + 1,
               notified := s.notified || s.waker, wakes := if s.waker then s.wakes + 1 else s.wakes,
               woken := if s.waker then s.woken ++ [s.pubW] else s.woken }
  | remove (k) (hreg : s.reg k = .inMap) : Tr s (.remove k)
      { s with reg := upd s.reg k .gone, peer := upd s.peer k { s.peer k with armed := none } }
  /-- `arrive` (`l = [item]`, `c` the old value `false`) or `close` (`l = []`, `c = true`) on a stream
  whose waker does not fire: not armed, or no longer registered -/
  | feed (op k l c) (hc : (s.peer k).closed = false) (hq : (s.peer k).armed = none ∨ ¬ live s k) : Tr s op
      { s with peer := upd s.peer k { q := (s.peer k).q ++ l, closed := c, armed := none },
               hist := upd s.hist k (s.hist k ++ l) }
  /-- the same with the armed waker firing -/
  | feedFire (op k l c t) (hc : (s.peer k).closed = false) (ha : (s.peer k).armed = some t) (hl : live s k) : Tr s op
      { s with peer := upd s.peer k { q := (s.peer k).q ++ l, closed := c, armed := none },
               hist := upd s.hist k (s.hist k ++ l),
               heap := (t, k) :: s.heap, waker := false, notified := s.notified || s.waker,
               wakes := if s.waker then s.wakes + 1 else s.wakes,
               woken := if s.waker then s.woken ++ [s.pubW] else s.woken }
  | pollStart (hpc : s.pc = .idle ∨ s.pc = .parked) : Tr s .pollStart
      { s with pc := .a, notified := false, seen := [], polledW := s.curW }
  | park (hpc : s.pc = .a) (hh : s.heap = []) : Tr s .recvStep
      { s with waker := true, pubW := s.polledW, pc := .parked, exhausted := false }
  | yield (t k rest) (hpc : s.pc = .a) (hpop : popMin s.heap = some ((t, k), rest)) (hseen : k ∈ s.seen) :
      Tr s .recvStep
      { s with waker := true, pubW := s.polledW, pc := .parked, notified := true, wakes := s.wakes + 1,
               woken := s.woken ++ [s.polledW], exhausted := false }
  | checkout (t k rest) (hpc : s.pc = .a) (hpop : popMin s.heap = some ((t, k), rest)) (hseen : k ∉ s.seen)
      (hreg : s.reg k = .inMap) : Tr s .recvStep
      { s with waker := true, pubW := s.polledW, heap := rest, reg := upd s.reg k .out, pc := .b t k }
  | stale (t k rest) (hpc : s.pc = .a) (hpop : popMin s.heap = some ((t, k), rest)) (hseen : k ∉ s.seen)
      (hreg : s.reg k ≠ .inMap) : Tr s .recvStep
      { s with waker := true, pubW := s.polledW, heap := rest }
  | selfWake (t k) (hpc : s.pc = .b t k) (hex : s.exhausted = true) : Tr s .recvStep
      { s with heap := (t, k) :: s.heap, waker := false, notified := s.notified || s.waker,
               wakes := if s.waker then s.wakes + 1 else s.wakes,
               woken := if s.waker then s.woken ++ [s.pubW] else s.woken, pc := .c t k .pend }
  | item (t k item q') (hpc : s.pc = .b t k) (hex : s.exhausted = false) (hq : (s.peer k).q = item :: q') :
      Tr s .recvStep
      { s with peer := upd s.peer k { s.peer k with q := q' }, pc := .c t k (.some item) }
  | eof (t k) (hpc : s.pc = .b t k) (hex : s.exhausted = false) (hq : (s.peer k).q = [])
      (hc : (s.peer k).closed = true) : Tr s .recvStep { s with pc := .c t k .none }
  | arm (t k) (hpc : s.pc = .b t k) (hex : s.exhausted = false) (hq : (s.peer k).q = [])
      (hc : (s.peer k).closed = false) : Tr s .recvStep
      { s with peer := upd s.peer k { s.peer k with armed := some t }, pc := .c t k .pend }
  | deliver (t k item) (hpc : s.pc = .c t k (.some item)) : Tr s .recvStep
      { s with heap := (s.counter, k) :: s.heap, counter := s.counter + 1, reg := upd s.reg k .inMap,
               pc := .idle, out := s.out ++ [(k, item)], exhausted := false }
  | drop (t k) (hpc : s.pc = .c t k .none) : Tr s .recvStep { s with reg := upd s.reg k .gone, pc := .a }
  | putBack (t k) (hpc : s.pc = .c t k .pend) : Tr s .recvStep
      { s with reg := upd s.reg k .inMap, pc := .a, seen := k :: s.seen }
  | exhaust : Tr s .exhaust { s with exhausted := true }
  | setWaker (w) : Tr s (.setWaker w) { s with curW := w }

theorem ready_hist (s : St) (k p') : (ready s k p').hist = s.hist := by
  unfold ready; split <;> (try split) <;> rfl

theorem ready_tr {s : St} (op k l c) (hc : (s.peer k).closed = false) :
    Tr s op { ready s k { q := (s.peer k).q ++ l, closed := c, armed := (s.peer k).armed } with
              hist := upd s.hist k (s.hist k ++ l) } := by
  unfold ready
  split
  · rename_i t ha
    split
    · rename_i hl; exact .feedFire op k l c t hc ha hl
    · rename_i hl; exact .feed op k l c hc (.inr hl)
  · rename_i ha; exact .feed op k l c hc (.inl ha)

theorem step_tr (s : St) (op : Op) : Tr s op (step s op) := by
  cases op with
  | insert k =>
    simp only [step, doInsert]; split
    · exact .insert k ‹_›
    · exact .skip _
  | remove k =>
    simp only [step, doRemove]; split
    · exact .remove k ‹_›
    · exact .skip _
  | arrive k item =>
    simp only [step, doArrive]; split
    · exact .skip _
    · rename_i hc
      exact ready_tr _ k [item] _ (by simpa using hc)
  | close k =>
    simp only [step, doClose]; split
    · exact .skip _
    · rename_i hc
      have := ready_tr (.close k) k [] true (s := s) (by simpa using hc)
      simp only [List.append_nil, upd_self] at this
      rw [← ready_hist s k { s.peer k with closed := true }] at this
      exact this
  | pollStart =>
    simp only [step, doPollStart]; split
    · exact .pollStart (.inl ‹_›)
    · exact .pollStart (.inr ‹_›)
    · exact .skip _
  | recvStep =>
    simp only [step, doRecv]; split
    · rename_i hpc
      unfold doA doAcore yieldNow
      cases hpop : popMin s.heap with
      | none => exact .park hpc (popMin_none hpop)
      | some er =>
        obtain ⟨⟨t, k⟩, rest⟩ := er
        by_cases hseen : k ∈ s.seen
        · simpa [hseen] using Tr.yield t k rest hpc hpop hseen
        · by_cases hreg : s.reg k = .inMap
          · simpa [hseen, hreg] using Tr.checkout t k rest hpc hpop hseen hreg
          · simpa [hseen, hreg] using Tr.stale t k rest hpc hpop hseen hreg
    · rename_i t k hpc
      unfold doB doBex doBcore fire
      by_cases hex : s.exhausted = true
      · simpa [hex] using Tr.selfWake t k hpc hex
      · have hex : s.exhausted = false := by simpa using hex
        cases hq : (s.peer k).q with
        | cons item q' => simpa [hex, hq] using Tr.item t k item q' hpc hex hq
        | nil =>
          by_cases hc : (s.peer k).closed = true
          · simpa [hex, hq, hc] using Tr.eof t k hpc hex hq hc
          · have hc : (s.peer k).closed = false := by simpa using hc
            simpa [hex, hq, hc] using Tr.arm t k hpc hex hq hc
    · rename_i t k r hpc
      cases r with
      | some item => exact .deliver t k item hpc
      | none => exact .drop t k hpc
      | pend => exact .putBack t k hpc
    · exact .skip _
  | exhaust => exact .exhaust
  | setWaker w => exact .setWaker w

end Zmq.FQ
