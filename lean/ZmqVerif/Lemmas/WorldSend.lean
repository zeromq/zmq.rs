import ZmqVerif.Lemmas.SinkStream
import ZmqVerif.Lemmas.WorldRecv
/-! A `send` in progress against the wires: one poll of a write through a `Wr` (`wrSendPoll_spec`), the invariant it
keeps until it completes (`SendInv`), and the step every sender that writes to a registered peer runs (`sendStep`). -/
namespace Zmq.W
open Zmq

/-- bytes the transport has taken or that wait in the write buffer: the connection's outgoing stream so far -/
def outOf (ps : Pipes) (wr : Wr) : Bytes := (getPipe ps wr.pipe).w.wire ++ wr.buf

/-- **One poll of `SinkExt::send`** (feed + flush, resumable): the connection's outgoing stream grows by the
WHOLE encoding exactly once — at the poll in which the item is accepted — never by a part of it, never twice. -/
theorem wrSendPoll_stream (ps : Pipes) (wr : Wr) (enc : Bytes) (st : SendSt)
    (hst : st = .feeding enc ∨ st = .flushing) :
    let r := wrSendPoll ps wr st
    r.2.1.pipe = wr.pipe ∧
    (r.2.2.1 = .feeding enc ∨ r.2.2.1 = .flushing) ∧
    outOf r.1 r.2.1 ++ SendSt.handed enc st = outOf ps wr ++ SendSt.handed enc r.2.2.1 ∧
    (r.2.2.2 = .done → r.2.1.buf = [] ∧ r.2.2.1 = .flushing) := by
  obtain ⟨h2, h3, h4⟩ := Sink.sendPoll_stream hwmDefault (getPipe ps wr.pipe).w wr.buf enc st hst
  simp only [wrSendPoll, outOf, getPipe_setPipe_same]
  exact ⟨trivial, h2, h3, h4⟩

theorem wrSendPoll_done_buf (ps : Pipes) (wr : Wr) (st : SendSt) (h : (wrSendPoll ps wr st).2.2.2 = .done) :
    (wrSendPoll ps wr st).2.1.buf = [] := by
  cases st with
  | feeding enc => exact ((wrSendPoll_stream ps wr enc _ (.inl rfl)).2.2.2 h).1
  | flushing => exact ((wrSendPoll_stream ps wr [] _ (.inr rfl)).2.2.2 h).1

theorem wrSendPoll_flushing (ps : Pipes) (wr : Wr) : (wrSendPoll ps wr .flushing).2.2.1 = .flushing := by
  simp [wrSendPoll, sendPoll]

/-- the same, relative to where the outgoing stream stood when the send began (`base`) -/
theorem wrSendPoll_spec (ps : Pipes) (wr : Wr) (base enc : Bytes) (st : SendSt)
    (hst : st = .feeding enc ∨ st = .flushing) (hout : outOf ps wr = base ++ SendSt.handed enc st) :
    let r := wrSendPoll ps wr st
    r.2.1.pipe = wr.pipe ∧
    (r.2.2.1 = .feeding enc ∨ r.2.2.1 = .flushing) ∧
    outOf r.1 r.2.1 = base ++ SendSt.handed enc r.2.2.1 ∧
    (r.2.2.2 = .done → r.2.1.buf = [] ∧ (getPipe r.1 wr.pipe).w.wire = base ++ enc) := by
  obtain ⟨h1, h2, h3, h4⟩ := wrSendPoll_stream ps wr enc st hst
  have h3' : outOf (wrSendPoll ps wr st).1 (wrSendPoll ps wr st).2.1 =
      base ++ SendSt.handed enc (wrSendPoll ps wr st).2.2.1 := by
    rw [hout] at h3
    rcases hst with rfl | rfl
    · simpa [SendSt.handed] using h3
    · rw [wrSendPoll_flushing] at h3 ⊢
      exact List.append_cancel_right h3
  refine ⟨h1, h2, h3', fun hd => ?_⟩
  obtain ⟨hb, hf⟩ := h4 hd
  rw [hf, outOf, hb, List.append_nil, h1] at h3'
  exact ⟨hb, h3'⟩

/-- a pipe whose write side takes everything at once -/
def Free (ps : Pipes) (p : Nat) : Prop := (wOf ps p).credit = none ∧ (wOf ps p).wrerr = false

theorem Free.congr {ps ps' : Pipes} {p : Nat} (h : Free ps p) (hw : wOf ps' p = wOf ps p) : Free ps' p := by
  unfold Free; rw [hw]; exact h

theorem wrSendPoll_free (ps : Pipes) (wr : Wr) (enc : Bytes) (hb : wr.buf = []) (hf : Free ps wr.pipe) :
    ∃ ps' wr', wrSendPoll ps wr (.feeding enc) = (ps', wr', .flushing, .done) ∧ wr'.pipe = wr.pipe ∧ wr'.buf = [] ∧
      Free ps' wr.pipe ∧ (wOf ps' wr.pipe).wire = (wOf ps wr.pipe).wire ++ enc ∧ ∀ j, inbufOf ps' j = inbufOf ps j := by
  have h := Sink.sendPoll_free hwmDefault (by decide) (getPipe ps wr.pipe).w enc hf.1 hf.2
  refine ⟨setPipe ps wr.pipe { getPipe ps wr.pipe with
      w := { (getPipe ps wr.pipe).w with wire := (getPipe ps wr.pipe).w.wire ++ enc } }, { wr with buf := [] },
    by simp only [wrSendPoll, hb, h], rfl, rfl, ?_, ?_, fun j => getPipe_setPipe_proj Pipe.inbuf _ _ _ j rfl⟩
  · simp only [Free, wOf, getPipe_setPipe_same]; exact hf
  · simp only [wOf, getPipe_setPipe_same]

/-- the invariant of a send future that writes to peer `k` (pipe `p`): beyond `base`, the connection has been
handed nothing yet (`feeding`) or the whole encoding `enc` (`flushing`) -/
def SendInv (w : World) (sid : Nat) (k : Ident) (p : Nat) (base enc : Bytes) (st : SendSt) : Prop :=
  ∃ s wr, getSock w sid = some s ∧ ilookup s.peers k = some wr ∧ wr.pipe = p ∧
    (st = .feeding enc ∨ st = .flushing) ∧ outOf w.pipes wr = base ++ SendSt.handed enc st

/-- the environment may change a pipe's write credit or make its writes fail between two polls -/
theorem SendInv.env {w : World} {sid : Nat} {k : Ident} {p : Nat} {base enc : Bytes} {st : SendSt}
    (h : SendInv w sid k p base enc st) (w' : World) (hs : getSock w' sid = getSock w sid)
    (hw : (wOf w'.pipes p).wire = (wOf w.pipes p).wire) : SendInv w' sid k p base enc st := by
  obtain ⟨s, wr, h1, h2, rfl, h4, h5⟩ := h
  refine ⟨s, wr, hs.trans h1, h2, rfl, h4, ?_⟩
  simp only [outOf, wOf] at hw h5 ⊢
  rw [hw]; exact h5

theorem SendInv.start (w : World) (sid : Nat) (s : Socket) (k : Ident) (wr : Wr) (enc : Bytes)
    (hs : getSock w sid = some s) (hp : ilookup s.peers k = some wr) :
    SendInv w sid k wr.pipe (outOf w.pipes wr) enc (.feeding enc) :=
  ⟨s, wr, hs, hp, rfl, Or.inl rfl, by simp [SendSt.handed]⟩

/-- `peer.send_queue.send(msg).await` on the registered peer `k`, as `sendToPoll` and the writing branch of `sendRRPoll`
both run it: they differ only in the future they return while `Pending` (`mk`) and in the book-keeping on success
(`fin`). -/
def sendStep (mk : SendSt → FutSt) (fin : Socket → Socket) (w : World) (sid : Nat) (k : Ident) (st : SendSt) :
    World × FutSt × POut :=
  match getSock w sid with
  | none => (w, .done, .ready (.err .other))
  | some s =>
    match ilookup s.peers k with
    | none => (w, .done, .ready (.err .other))
    | some wr =>
      let (ps, wr, st, r) := wrSendPoll w.pipes wr st
      let s := { s with peers := iinsert s.peers k wr }
      let w := { w with pipes := ps }
      match r with
      | .pending => (setSock w sid s, mk st, .pending)
      | .error =>
        let (ps, s') := peerDisconnected w.pipes s k
        (setSock { w with pipes := ps } sid s', .done, .ready (.err .io))
      | .done => (setSock w sid (fin s), .done, .ready .okUnit)

theorem sendToPoll_eq (w : World) (sid : Nat) (k : Ident) (st : SendSt) (sc : Bool) :
    sendToPoll w sid k st sc =
      sendStep (.sendTo sid k · sc) (fun s => if sc then { s with current := some k } else s) w sid k st := rfl

theorem sendRRPoll_some_eq (fuel : Nat) (w : World) (sid : Nat) (m : Msg) (k : Ident) (st : SendSt) :
    sendRRPoll (fuel + 1) w sid m (some (k, st)) =
      sendStep (fun st => .sendRR sid m (some (k, st))) (fun s => { s with rr := s.rr ++ [k] }) w sid k st := by
  cases hs : getSock w sid with
  | none => simp only [sendRRPoll, sendStep, hs]
  | some s =>
    cases hp : ilookup s.peers k with
    | none => simp only [sendRRPoll, sendStep, hs, hp]
    | some wr =>
      simp only [sendRRPoll, sendStep, hs, hp]
      rcases wrSendPoll w.pipes wr st with ⟨ps, wr', st', r⟩
      cases r <;> rfl

/-- **One poll of a write to a registered peer**, whoever runs it: no other connection's write side is touched — also
when the write fails and the peer is forgotten — and the outcome is one of three: still writing, with the invariant
kept; done, and the wire is `base ++ enc`; or the i/o error.  An eliminator, because the statements it serves are
`match`es on the future and the result. -/
@[elab_as_elim]
theorem sendStep_spec {mk : SendSt → FutSt} {fin : Socket → Socket} {w : World} {sid : Nat} {k : Ident} {p : Nat}
    {base enc : Bytes} {st : SendSt} {w' : World} {f' : FutSt} {o : POut} {motive : FutSt → POut → Prop}
    (hinv : SendInv w sid k p base enc st) (h : sendStep mk fin w sid k st = (w', f', o))
    (hm : (∀ j, j ≠ p → wOf w'.pipes j = wOf w.pipes j) →
      (∀ st', SendInv w' sid k p base enc st' → motive (mk st') .pending) ∧
      ((wOf w'.pipes p).wire = base ++ enc → motive .done (.ready .okUnit)) ∧
      motive .done (.ready (.err .io))) : motive f' o := by
  obtain ⟨s, wr, hs, hp, rfl, hst, hout⟩ := hinv
  obtain ⟨h1, h2, h3, h4⟩ := wrSendPoll_spec w.pipes wr base enc st hst hout
  have hfr : ∀ j, j ≠ wr.pipe → wOf (wrSendPoll w.pipes wr st).1 j = wOf w.pipes j := fun j hj =>
    congrArg Pipe.w (wrSendPoll_frame w.pipes wr st j hj)
  simp only [sendStep, hs, hp] at h
  generalize wrSendPoll w.pipes wr st = q at h h1 h2 h3 h4 hfr
  obtain ⟨ps1, wr1, st1, r⟩ := q
  cases r <;> cases h
  · exact (hm hfr).2.1 (h4 rfl).2
  · exact (hm hfr).1 st1 ⟨_, wr1, getSock_setSock_same _ _ _, ilookup_iinsert_same _ _ _, h1, h2, h3⟩
  · exact (hm fun j hj => (peerDisconnected_wOf _ _ _ _).trans (hfr j hj)).2.2

@[elab_as_elim]
theorem sendStep_start {mk : SendSt → FutSt} {fin : Socket → Socket} {w : World} {sid : Nat} {s : Socket} {k : Ident}
    {wr : Wr} {enc : Bytes} {w' : World} {f' : FutSt} {o : POut} {motive : FutSt → POut → Prop}
    (hs : getSock w sid = some s) (hp : ilookup s.peers k = some wr)
    (h : sendStep mk fin w sid k (.feeding enc) = (w', f', o))
    (hm : (∀ j, j ≠ wr.pipe → wOf w'.pipes j = wOf w.pipes j) →
      (∀ st', SendInv w' sid k wr.pipe (outOf w.pipes wr) enc st' → motive (mk st') .pending) ∧
      ((wOf w'.pipes wr.pipe).wire = outOf w.pipes wr ++ enc → motive .done (.ready .okUnit)) ∧
      motive .done (.ready (.err .io))) : motive f' o :=
  sendStep_spec (SendInv.start w sid s k wr enc hs hp) h hm

theorem sendStep_sock (mk : SendSt → FutSt) (fin : Socket → Socket) {w : World} {sid : Nat} {s : Socket} (k : Ident)
    (st : SendSt) (hs : getSock w sid = some s) :
    let r := sendStep mk fin w sid k st
    (∃ st' wr', r.2 = (mk st', .pending) ∧ getSock r.1 sid = some { s with peers := iinsert s.peers k wr' }) ∨
    (∃ wr', r.2 = (.done, .ready .okUnit) ∧ getSock r.1 sid = some (fin { s with peers := iinsert s.peers k wr' })) ∨
    (∃ ps wr', r.2 = (.done, .ready (.err .io)) ∧
      getSock r.1 sid = some (peerDisconnected ps { s with peers := iinsert s.peers k wr' } k).2) ∨
    r.2 = (.done, .ready (.err .other)) := by
  cases hp : ilookup s.peers k with
  | none => simp only [sendStep, hs, hp]; exact .inr (.inr (.inr trivial))
  | some wr =>
    simp only [sendStep, hs, hp]
    rcases wrSendPoll w.pipes wr st with ⟨ps1, wr1, st1, r⟩
    cases r with
    | pending => exact .inl ⟨st1, wr1, rfl, getSock_setSock_same _ _ _⟩
    | error => exact .inr (.inr (.inl ⟨ps1, wr1, rfl, getSock_setSock_same _ _ _⟩))
    | done => exact .inr (.inl ⟨wr1, rfl, getSock_setSock_same _ _ _⟩)

/-- the step touches no pipe but the peer's connection: its write half, and — when the write fails and the peer is
forgotten — the read half the socket holds for it -/
theorem sendStep_getPipe (mk : SendSt → FutSt) (fin : Socket → Socket) {w : World} {sid : Nat} {s : Socket} {k : Ident}
    {wr : Wr} (st : SendSt) (hs : getSock w sid = some s) (hp : ilookup s.peers k = some wr) (j : Nat) (hj : j ≠ wr.pipe)
    (hjr : ∀ rd, ilookup s.fqStreams k = some rd → j ≠ rd.pipe)
    (hjq : ∀ rd, ilookup s.reqRd k = some rd → j ≠ rd.pipe) :
    getPipe (sendStep mk fin w sid k st).1.pipes j = getPipe w.pipes j := by
  have hfr := wrSendPoll_frame w.pipes wr st j hj
  have hpipe := wrSendPoll_pipe w.pipes wr st
  simp only [sendStep, hs, hp]
  generalize wrSendPoll w.pipes wr st = q at hfr hpipe
  obtain ⟨ps, wr', st', r⟩ := q
  cases r with
  | pending => exact hfr
  | done => exact hfr
  | error =>
    refine Eq.trans (peerDisconnected_frame _ _ _ _ (fun wr2 h2 => ?_) hjr hjq) hfr
    rw [ilookup_iinsert_same] at h2
    cases h2; exact hpipe ▸ hj

theorem sendToPoll_frame (w : World) (sid : Nat) (k : Ident) (st : SendSt) (sc : Bool) (s : Socket) (wr : Wr)
    (hs : getSock w sid = some s) (hp : ilookup s.peers k = some wr) (j : Nat) (hj : j ≠ wr.pipe)
    (hjr : ∀ rd, ilookup s.fqStreams k = some rd → j ≠ rd.pipe)
    (hjq : ∀ rd, ilookup s.reqRd k = some rd → j ≠ rd.pipe) :
    getPipe (sendToPoll w sid k st sc).1.pipes j = getPipe w.pipes j :=
  sendToPoll_eq w sid k st sc ▸ sendStep_getPipe _ _ st hs hp j hj hjr hjq

/-- **One poll of a send that writes to a chosen peer** (REQ, REP, ROUTER — `peer.send_queue.send(msg).await`):
`Pending` keeps the invariant; `Ready(Ok)` means the connection's wire is EXACTLY what it was when the send began
followed by the complete encoding; no other connection's write side is touched — also when the write fails and
the peer is forgotten. -/
theorem sendToPoll_spec (w : World) (sid : Nat) (k : Ident) (p : Nat) (base enc : Bytes) (st : SendSt) (sc : Bool)
    (hinv : SendInv w sid k p base enc st) (w' : World) (f' : FutSt) (o : POut)
    (h : sendToPoll w sid k st sc = (w', f', o)) :
    (∀ j, j ≠ p → wOf w'.pipes j = wOf w.pipes j) ∧
    (match (generalizing := false) f', o with
     | .sendTo _ k' st' _, .pending => k' = k ∧ SendInv w' sid k p base enc st'
     | _, .ready .okUnit => (wOf w'.pipes p).wire = base ++ enc
     | _, .ready (.err _) => True
     | _, _ => False) :=
  sendStep_spec hinv ((sendToPoll_eq ..).symm.trans h) fun hfr =>
    ⟨fun _ hi => ⟨hfr, rfl, hi⟩, fun hw => ⟨hfr, hw⟩, hfr, trivial⟩

/-- **One poll of a round-robin send whose peer has been chosen** (PUSH, DEALER — `send_round_robin`): the same
statement — the complete encoding on exactly one wire when it returns `Ok`, nothing on any other. -/
theorem sendRRPoll_spec (fuel : Nat) (w : World) (sid : Nat) (m : Msg) (k : Ident) (p : Nat) (base enc : Bytes) (st : SendSt)
    (hinv : SendInv w sid k p base enc st) (w' : World) (f' : FutSt) (o : POut)
    (h : sendRRPoll (fuel + 1) w sid m (some (k, st)) = (w', f', o)) :
    (∀ j, j ≠ p → wOf w'.pipes j = wOf w.pipes j) ∧
    (match (generalizing := false) f', o with
     | .sendRR _ _ (some (k', st')), .pending => k' = k ∧ SendInv w' sid k p base enc st'
     | _, .ready .okUnit => (wOf w'.pipes p).wire = base ++ enc
     | _, .ready (.err _) => True
     | _, _ => False) :=
  sendStep_spec hinv ((sendRRPoll_some_eq ..).symm.trans h) fun hfr =>
    ⟨fun _ hi => ⟨hfr, rfl, hi⟩, fun hw => ⟨hfr, hw⟩, hfr, trivial⟩

end Zmq.W
