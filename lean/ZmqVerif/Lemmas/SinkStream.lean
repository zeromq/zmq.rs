import ZmqVerif.Model.Sink
/-!
# Stream continuity of the framed writer (`Model.Sink`): what `poll_ready`, `poll_flush` and `try_send` do to
`wire ++ write buffer`
-/
/-- what a `SinkExt::send(item)` future has handed to the connection so far -/
def Zmq.W.SendSt.handed (enc : Zmq.Bytes) : Zmq.SendSt → Zmq.Bytes
  | .feeding _ => []
  | .flushing => enc

namespace Zmq.Sink
open Zmq Zmq.W

theorem flushBuf_stream (p : WPipe) (buf : Bytes) :
    (flushBuf p buf).1.wire ++ (flushBuf p buf).2.1 = p.wire ++ buf := by
  fun_cases flushBuf p buf <;> simp +zetaDelta [*]

theorem pollReady_stream (hwm : Nat) (p : WPipe) (buf : Bytes) :
    (pollReady hwm p buf).1.wire ++ (pollReady hwm p buf).2.1 = p.wire ++ buf := by
  fun_cases pollReady hwm p buf <;> simp +zetaDelta

theorem flushBuf_done_empty (p : WPipe) (buf : Bytes) :
    (flushBuf p buf).2.2 = .done → (flushBuf p buf).2.1 = [] := by
  fun_cases flushBuf p buf
  · exact fun _ => List.isEmpty_iff.mp ‹_›
  · nofun
  · exact fun _ => rfl
  · exact fun _ => rfl
  · nofun

theorem flushBuf_free (p : WPipe) (buf : Bytes) (hc : p.credit = none) (he : p.wrerr = false) :
    flushBuf p buf = ({ p with wire := p.wire ++ buf }, [], .done) := by
  unfold flushBuf
  cases buf with
  | nil => simp
  | cons x t => simp [he, hc]

theorem sendPoll_free (hwm : Nat) (hpos : 0 < hwm) (p : WPipe) (enc : Bytes) (hc : p.credit = none)
    (he : p.wrerr = false) :
    sendPoll hwm p [] (.feeding enc) = ({ p with wire := p.wire ++ enc }, [], .flushing, .done) := by
  simp [sendPoll, pollReady, hpos, flushBuf_free p enc hc he]

theorem trySend_stream (hwm : Nat) (p : WPipe) (buf enc : Bytes) :
    (trySend hwm p buf enc).1.wire ++ (trySend hwm p buf enc).2.1
      = p.wire ++ buf ++ (if (trySend hwm p buf enc).2.2 = .ok then enc else []) := by
  have h1 := pollReady_stream hwm p buf
  fun_cases trySend hwm p buf enc
  · next hq => rw [hq] at h1; exact h1.trans (List.append_nil _).symm
  · next hq => rw [hq] at h1; exact h1.trans (List.append_nil _).symm
  · next p1 b1 hq _ _ _ hf =>
    have h2 := flushBuf_stream p1 (b1 ++ enc)
    rw [hq] at h1
    rw [hf, ← List.append_assoc, h1] at h2
    exact h2

/-- **One poll of `SinkExt::send`** (feed + flush, resumable) on a pipe: `wire ++ write buffer` grows by the WHOLE
encoding exactly once — at the poll in which the item is accepted — never by a part of it, never twice. -/
theorem sendPoll_stream (hwm : Nat) (p : WPipe) (buf enc : Bytes) (st : SendSt)
    (hst : st = .feeding enc ∨ st = .flushing) :
    let r := sendPoll hwm p buf st
    (r.2.2.1 = .feeding enc ∨ r.2.2.1 = .flushing) ∧
    r.1.wire ++ r.2.1 ++ SendSt.handed enc st = p.wire ++ buf ++ SendSt.handed enc r.2.2.1 ∧
    (r.2.2.2 = .done → r.2.1 = [] ∧ r.2.2.1 = .flushing) := by
  rcases hst with rfl | rfl
  · have hs := pollReady_stream hwm p buf
    simp only [sendPoll]
    generalize pollReady hwm p buf = q at hs
    obtain ⟨p1, b1, r1⟩ := q
    cases r1 with
    | pending => simp only at hs ⊢; exact ⟨.inl trivial, by rw [hs], nofun⟩
    | error => simp only at hs ⊢; exact ⟨.inl trivial, by rw [hs], nofun⟩
    | done =>
      simp only at hs ⊢
      refine ⟨.inr trivial, ?_, fun hd => ⟨flushBuf_done_empty _ _ hd, trivial⟩⟩
      simp only [SendSt.handed, List.append_nil]
      rw [flushBuf_stream, ← List.append_assoc, hs]
  · simp only [sendPoll]
    exact ⟨.inr trivial, by rw [flushBuf_stream], fun hd => ⟨flushBuf_done_empty _ _ hd, trivial⟩⟩

end Zmq.Sink
