import ZmqVerif.Lemmas.FQInv
/-! Progress and wake-up: with something deliverable registered, a receiver that runs
delivers within `3·|heap|` sections; a parked receiver is woken by the next event. -/
namespace Zmq.FQ

/-- `n` consecutive receiver sections with no environment step in between -/
def recvN : Nat → St → St
  | 0, s => s
  | n+1, s => recvN n (step s .recvStep)

theorem recvN_add (a b : Nat) (s : St) : recvN (a + b) s = recvN b (recvN a s) := by
  induction a generalizing s with
  | zero => simp [recvN]
  | succ a ih => rw [Nat.succ_add]; simp [recvN, ih]

theorem recvN_inv (n : Nat) {s : St} (h : Inv s) : Inv (recvN n s) := by
  induction n generalizing s with
  | zero => exact h
  | succ n ih => exact ih (step_inv s _ h)

/-- some registered stream can yield an item right now -/
def Avail (s : St) : Prop := ∃ k, s.reg k = .inMap ∧ (s.peer k).q ≠ []

/-- nothing that already returned `Pending` in this call has an event queued — true of every
call in which the budget never ran out: such a stream is armed, its token is the armed waker -/
def SeenClean (s : St) : Prop := ∀ j, s.seen.contains j = true → cnt s.heap j = 0

theorem progress_aux (s : St) (hinv : Inv s) (hpc : s.pc = .a) (hav : Avail s) (hex : s.exhausted = false)
    (hsc : SeenClean s) :
    ∃ n, n ≤ 3 * s.heap.length ∧ (recvN n s).pc = .idle ∧ (recvN n s).out.length = s.out.length + 1 := by
  induction hm : s.heap.length using Nat.strongRecOn generalizing s with
  | _ m ih =>
    obtain ⟨k, hreg, hq⟩ := hav
    have hev := avail_has_event s hinv k hreg (Or.inl hq)
    cases hpop : popMin s.heap with
    | none => have := popMin_none hpop; simp [this, cnt] at hev
    | some er =>
      obtain ⟨⟨t, k'⟩, rest⟩ := er
      have hlen := popMin_length hpop
      have hcnt := popMin_cnt hpop
      -- the popped key has an event, so it is not one of the streams seen pending in this call
      have hnm : k' ∉ s.seen := fun hmem => by
        have := hsc k' (by simpa using hmem)
        have := hcnt k'
        simp at this; omega
      have hrest : ∀ j, s.seen.contains j = true → cnt rest j = 0 := fun j hj => by
        have := hcnt j
        have := hsc j hj
        omega
      -- whenever `n0 ≤ 3` sections bring the receiver back to A with that event gone and nothing
      -- delivered, the induction hypothesis finishes
      have back : ∀ n0, n0 ≤ 3 → ∀ s', recvN n0 s = s' → s'.heap = rest → s'.out = s.out → s'.pc = .a →
          s'.exhausted = false → Avail s' → SeenClean s' →
          ∃ n, n ≤ 3 * m ∧ (recvN n s).pc = .idle ∧ (recvN n s).out.length = s.out.length + 1 := by
        intro n0 hn0 s' hs' hheap hout hpc' hex' hav' hsc'
        have hinv' : Inv s' := hs' ▸ recvN_inv n0 hinv
        obtain ⟨n, hn, hp, ho⟩ := ih rest.length (by omega) s' hinv' hpc' hav' hex' hsc' (by rw [hheap])
        exact ⟨n0 + n, by omega, by rw [recvN_add, hs']; exact hp, by rw [recvN_add, hs', ho, hout]⟩
      by_cases hk' : s.reg k' = .inMap
      · cases hqk : (s.peer k').q with
        | cons item q' =>
          -- it yields: B, then C delivers
          refine ⟨3, by omega, ?_, ?_⟩ <;>
            simp [recvN, step, doRecv, hpc, doA, hpop, hnm, doAcore, hk', doB, hex, doBcore, hqk, doC]
        | nil =>
          have hkk : k' ≠ k := by intro e; subst e; exact hq hqk
          by_cases hcl : (s.peer k').closed = true
          · refine back 3 (Nat.le_refl _)
              { s with waker := true, pubW := s.polledW, heap := rest, reg := upd (upd s.reg k' .out) k' .gone,
                       pc := .a } ?_ rfl rfl rfl hex ⟨k, ?_, hq⟩ hrest
            · simp [recvN, step, doRecv, hpc, doA, hpop, hnm, doAcore, hk', doB, hex, doBcore, hqk, hcl, doC]
            · simp [upd, Ne.symm hkk, hreg]
          · have hcl' : (s.peer k').closed = false := by simpa using hcl
            have h3 : recvN 3 s =
                { s with waker := true, pubW := s.polledW, heap := rest, reg := upd (upd s.reg k' .out) k' .inMap,
                         peer := upd s.peer k' { s.peer k' with armed := some t }, pc := .a,
                         seen := k' :: s.seen } := by
              simp [recvN, step, doRecv, hpc, doA, hpop, hnm, doAcore, hk', doB, hex, doBcore, hqk, hcl', doC]
            refine back 3 (Nat.le_refl _) _ h3 rfl rfl rfl hex ⟨k, ?_, ?_⟩ fun j hj => ?_
            · simp [upd, Ne.symm hkk, hreg]
            · simpa [upd, Ne.symm hkk] using hq
            · by_cases hjk : j = k'
              · -- the stream just armed: its one token is the armed waker
                subst hjk
                have ht := (h3 ▸ recvN_inv 3 hinv).tok j (by simp [upd])
                simp [evs, armedN, inHand, handKey, upd] at ht
                exact ht
              · exact hrest j (by simpa [hjk] using hj)
      · refine back 1 (by omega) { s with waker := true, pubW := s.polledW, heap := rest } ?_ rfl rfl hpc hex
          ⟨k, hreg, hq⟩ hrest
        simp [recvN, step, doRecv, hpc, doA, hpop, hnm, doAcore, hk']

theorem step_pollStart {s : St} (hpc : s.pc = .idle ∨ s.pc = .parked) :
    step s .pollStart = { s with pc := .a, notified := false, seen := [], polledW := s.curW } := by
  rcases hpc with h | h <;> simp [step, doPollStart, h]

theorem progress (s : St) (hinv : Inv s) (hpc : s.pc = .idle ∨ s.pc = .parked) (hav : Avail s)
    (hex : s.exhausted = false) :
    ∃ n, n ≤ 3 * s.heap.length ∧
      (recvN n (step s .pollStart)).pc = .idle ∧
      (recvN n (step s .pollStart)).out.length = s.out.length + 1 := by
  have hinv1 := step_inv s .pollStart hinv
  rw [step_pollStart hpc] at hinv1 ⊢
  exact progress_aux _ hinv1 rfl hav hex fun j hj => by simp at hj

/-- **no spin**: when the budget is exhausted, a stream that has just returned `Pending` in this
call is not polled again in this call — the receiver yields (parks, notified and woken), so the
executor can run and refresh the budget.  (Before the repair the loop re-polled the self-waking
stream for ever: a livelock at 100 % CPU, reproduced on the real runtime.) -/
theorem no_spin (s : St) (t k : Nat) (rest : List (Nat × Nat)) (hpc : s.pc = .a)
    (hpop : popMin s.heap = some ((t, k), rest)) (hseen : s.seen.contains k = true) :
    (step s .recvStep).pc = .parked ∧ (step s .recvStep).notified = true ∧
    (step s .recvStep).wakes = s.wakes + 1 ∧ (step s .recvStep).heap = s.heap ∧
    (step s .recvStep).exhausted = false := by
  have hmem : k ∈ s.seen := by simpa using hseen
  simp [step, doRecv, hpc, doA, hpop, hmem, yieldNow]

/-- after an exhausted poll the next section A is exactly the situation of `no_spin` -/
theorem exhausted_poll_is_seen (s : St) (t k : Nat) (hpc : s.pc = .b t k) (hex : s.exhausted = true) :
    let s2 := step (step s .recvStep) .recvStep
    s2.pc = .a ∧ s2.seen = k :: s.seen ∧ s2.heap = (t, k) :: s.heap := by
  simp [step, doRecv, hpc, doB, hex, doBex, fire, doC]

theorem wake_on_arrive (s : St) (hinv : Inv s) (hp : s.pc = .parked) (hn : s.notified = false)
    (k item : Nat) (hreg : s.reg k = .inMap) :
    (step s (.arrive k item)).wakes = s.wakes + 1 ∧ (step s (.arrive k item)).notified = true ∧
    (step s (.arrive k item)).woken = s.woken ++ [s.pubW] := by
  obtain ⟨t, ha⟩ := parked_armed hinv hp hn hreg
  have hcl := (hinv.armedEmpty k (by rw [ha]; rfl)).2
  simp [step, doArrive, hcl, ready, ha, hreg, fire, (hinv.i1 hp hn).2]

theorem wake_on_close (s : St) (hinv : Inv s) (hp : s.pc = .parked) (hn : s.notified = false)
    (k : Nat) (hreg : s.reg k = .inMap) :
    (step s (.close k)).wakes = s.wakes + 1 ∧ (step s (.close k)).notified = true := by
  obtain ⟨t, ha⟩ := parked_armed hinv hp hn hreg
  have hcl := (hinv.armedEmpty k (by rw [ha]; rfl)).2
  simp [step, doClose, hcl, ready, ha, hreg, fire, (hinv.i1 hp hn).2]

theorem wake_on_insert (s : St) (hinv : Inv s) (hp : s.pc = .parked) (hn : s.notified = false)
    (k : Nat) (hreg : s.reg k = .absent) :
    (step s (.insert k)).wakes = s.wakes + 1 ∧ (step s (.insert k)).notified = true ∧
    (step s (.insert k)).woken = s.woken ++ [s.pubW] := by
  obtain ⟨_, hw⟩ := hinv.i1 hp hn
  simp [step, doInsert, hreg, hw]

end Zmq.FQ
