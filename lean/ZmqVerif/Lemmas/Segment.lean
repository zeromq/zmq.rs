import ZmqVerif.Model.Decoder
namespace Zmq

def StepOut.app (o : StepOut) (extra : Bytes) : StepOut :=
  match o with
  | .cont d b => .cont d (b ++ extra)
  | .item i d b => .item i d (b ++ extra)
  | .fail e d b => .fail e d (b ++ extra)
  | .panic s => .panic s

def DecodeOut.app (o : DecodeOut) (extra : Bytes) : DecodeOut :=
  match o with
  | .none d b => .none d (b ++ extra)
  | .item i d b => .item i d (b ++ extra)
  | .fail e d b => .fail e d (b ++ extra)
  | .panic s d b => .panic s d (b ++ extra)

theorem ofOut_app (o : Out Item) (d : Dec) (b extra : Bytes) :
    (StepOut.ofOut o d b).app extra = StepOut.ofOut o d (b ++ extra) := by
  cases o <;> rfl

theorem step_append (d : Dec) (buf extra : Bytes) (h : ¬ buf.length < d.st.need) :
    step d (buf ++ extra) = (step d buf).app extra := by
  obtain ⟨st, p⟩ := d
  have hl : (buf ++ extra).length = buf.length + extra.length := List.length_append
  cases st with
  | greeting =>
    have hle : 64 ≤ buf.length := Nat.not_lt.mp h
    have hh : (buf ++ extra).head? = buf.head? := by
      cases buf with
      | nil => cases hle
      | cons b t => rfl
    rw [step_greeting p _ (by omega), step_greeting p _ hle, hh, List.take_append_of_le_length hle,
      List.drop_append_of_le_length hle]
    split
    · rfl
    · rw [ofOut_app]
  | header => cases buf with
    | nil => simp [DState.need] at h
    | cons b t => rfl
  | len f =>
    cases hf : f.long <;> simp only [DState.need, hf, Bool.false_eq_true, ↓reduceIte] at h
    · cases buf with
      | nil => simp at h
      | cons b t => simp only [List.cons_append, step_len_short hf]; rfl
    · have hle : 8 ≤ buf.length := Nat.not_lt.mp h
      rw [step_len_long hf p _ (by omega), step_len_long hf p _ hle, List.take_append_of_le_length hle,
        List.drop_append_of_le_length hle]; rfl
  | body f n =>
    have hle : n ≤ buf.length := Nat.not_lt.mp h
    rw [step_body f n p _ (by omega), step_body f n p _ hle, List.take_append_of_le_length hle,
      List.drop_append_of_le_length hle]
    cases f.command
    · cases f.more <;> rfl
    · exact (ofOut_app _ _ _ _).symm

theorem decode_append (d : Dec) (buf extra : Bytes) :
    decode d (buf ++ extra) =
      match decode d buf with
      | .none d' b' => decode d' (b' ++ extra)
      | o => o.app extra := by
  fun_induction decode d buf with
  | case1 d buf hlt => rfl
  | case2 d buf hge d1 b1 hs ih | case3 d buf hge i d1 b1 hs | case4 d buf hge e d1 b1 hs | case5 d buf hge s hs =>
    rw [decode_eq d (buf ++ extra), if_neg (by simp; omega), step_append d buf extra hge, hs]
    first | exact ih | rfl

theorem run_append_decode (d : Dec) (buf extra : Bytes) :
    run d (buf ++ extra) =
      match decode d buf with
      | .none d' b' => run d' (b' ++ extra)
      | .item i d' b' => { run d' (b' ++ extra) with items := i :: (run d' (b' ++ extra)).items }
      | .fail e d' b' => ⟨[], some e, none, d', b' ++ extra⟩
      | .panic s d' b' => ⟨[], none, some s, d', b' ++ extra⟩ := by
  rw [run_eq d (buf ++ extra), decode_append]
  cases decode d buf with
  | none d' b' => exact (run_eq d' (b' ++ extra)).symm
  | item i d' b' => rfl
  | fail e d' b' => rfl
  | panic s d' b' => rfl

def RunOut.ended (r : RunOut) : Bool := r.error.isSome || r.panic.isSome

theorem run_append (d : Dec) (buf extra : Bytes) :
    run d (buf ++ extra) =
      if (run d buf).ended then { run d buf with rest := (run d buf).rest ++ extra }
      else
        let r := run d buf
        let r2 := run r.dec (r.rest ++ extra)
        { r2 with items := r.items ++ r2.items } := by
  fun_induction run d buf with
  | case1 d buf d' buf' h => rw [run_append_decode, h]; rfl
  | case2 d buf e d' buf' h => rw [run_append_decode, h]; rfl
  | case3 d buf s d' buf' h => rw [run_append_decode, h]; rfl
  | case4 d buf i d' buf' h r ih =>
    rw [run_append_decode, h]
    simp only [ih]
    by_cases he : ((run d' buf').error.isSome || (run d' buf').panic.isSome) = true <;>
      simp [he, RunOut.ended, r]

theorem run_append_items (d : Dec) (buf extra : Bytes) :
    (run d buf).items <+: (run d (buf ++ extra)).items := by
  rw [run_append]
  cases (run d buf).ended <;> simp

def RunOut.pre (l : List Item) (r : RunOut) : RunOut := { r with items := l ++ r.items }

@[simp] theorem RunOut.pre_nil (r : RunOut) : RunOut.pre [] r = r := by cases r; rfl
@[simp] theorem RunOut.pre_pre (a b : List Item) (r : RunOut) : RunOut.pre a (RunOut.pre b r) = RunOut.pre (a ++ b) r := by
  simp [RunOut.pre]
@[simp] theorem RunOut.pre_items (a : List Item) (r : RunOut) : (RunOut.pre a r).items = a ++ r.items := rfl

/-- a run continued with more bytes (the right-hand side of `run_append`) -/
def RunOut.extend (r : RunOut) (x : Bytes) : RunOut :=
  if r.ended then { r with rest := r.rest ++ x }
  else (run r.dec (r.rest ++ x)).pre r.items

theorem run_extend (d : Dec) (buf x : Bytes) : run d (buf ++ x) = (run d buf).extend x := by
  rw [run_append]
  unfold RunOut.extend RunOut.pre
  split <;> rfl

theorem extend_pre (l : List Item) (r : RunOut) (x : Bytes) :
    (RunOut.pre l r).extend x = RunOut.pre l (r.extend x) := by
  unfold RunOut.extend
  have : (RunOut.pre l r).ended = r.ended := rfl
  rw [this]
  split
  · rfl
  · simp [RunOut.pre]

theorem decode_none_stuck {d : Dec} {buf : Bytes} {d' : Dec} {b' : Bytes}
    (h : decode d buf = .none d' b') : b'.length < d'.st.need := by
  fun_induction decode d buf with
  | case1 d buf hlt => simp at h; obtain ⟨rfl, rfl⟩ := h; exact hlt
  | case2 d buf hge d1 b1 hs ih => exact ih h
  | case3 => simp at h
  | case4 => simp at h
  | case5 => simp at h

theorem decode_short {d : Dec} {buf : Bytes} (h : buf.length < d.st.need) : decode d buf = .none d buf := by
  rw [decode_eq, if_pos h]

theorem run_stuck (d : Dec) (buf : Bytes) (h : buf.length < d.st.need) :
    run d buf = ⟨[], none, none, d, buf⟩ := by
  rw [run_eq, decode_short h]

theorem run_item {d : Dec} {buf : Bytes} {i : Item} {d' : Dec} {buf' : Bytes}
    (h : decode d buf = .item i d' buf') :
    run d buf = { run d' buf' with items := i :: (run d' buf').items } := by
  rw [run_eq, h]

theorem run_result_stuck (d : Dec) (buf : Bytes) :
    (run d buf).ended = false → (run d buf).rest.length < (run d buf).dec.st.need := by
  fun_induction run d buf with
  | case1 d buf d' buf' h => intro _; exact decode_none_stuck h
  | case2 d buf e d' buf' h => simp [RunOut.ended]
  | case3 d buf s d' buf' h => simp [RunOut.ended]
  | case4 d buf i d' buf' h r ih => simpa [RunOut.ended] using ih

def Conn.Quiescent (c : Conn) : Prop := c.dead = true ∨ c.buf.length < c.dec.st.need

theorem Conn.feed_quiescent (c : Conn) (chunk : Bytes) : (c.feed chunk).2.Quiescent := by
  unfold Conn.feed
  by_cases hd : c.dead
  · simp only [hd, ↓reduceIte]; left; simpa [Conn.dead] using hd
  · simp only [hd, Bool.false_eq_true, ↓reduceIte]
    by_cases he : (run c.dec (c.buf ++ chunk)).ended
    · left; simpa [Conn.dead, RunOut.ended] using he
    · right; exact run_result_stuck _ _ (by simpa using he)

theorem Conn.feed_append (c : Conn) (a b : Bytes) :
    c.feed (a ++ b) =
      (((c.feed a).1 ++ ((c.feed a).2.feed b).1), ((c.feed a).2.feed b).2) := by
  unfold Conn.feed
  cases hd : c.dead
  · have hr : ∀ r : RunOut, Conn.dead ⟨r.dec, r.rest, r.error, r.panic⟩ = r.ended := fun _ => rfl
    simp only [Bool.false_eq_true, ↓reduceIte, hr]
    rw [← List.append_assoc, run_append]
    cases (run c.dec (c.buf ++ a)).ended <;> simp
  · have hb : ∀ x, Conn.dead { c with buf := x } = c.dead := fun _ => rfl
    simp [hb, hd]

theorem Conn.feed_nil (c : Conn) (hq : c.Quiescent) : c.feed [] = ([], c) := by
  obtain ⟨d, b, e, p⟩ := c
  unfold Conn.feed
  split
  · simp
  · rename_i hd
    cases e <;> cases p <;> simp [Conn.dead] at hd
    rcases hq with h | h
    · cases h
    · simp [run_stuck _ _ h]

theorem Conn.init_quiescent : Conn.init.Quiescent := .inr (by decide)

/-- every statement about `feedAll` on a quiescent connection is a statement about one `run` -/
theorem Conn.feedAll_eq_feed (c : Conn) (hq : c.Quiescent) (chunks : List Bytes) :
    c.feedAll chunks = c.feed chunks.flatten := by
  induction chunks generalizing c with
  | nil => simp [Conn.feedAll, Conn.feed_nil c hq]
  | cons ch chs ih =>
    simp only [Conn.feedAll, List.flatten_cons]
    rw [ih _ (Conn.feed_quiescent c ch), Conn.feed_append]

end Zmq
