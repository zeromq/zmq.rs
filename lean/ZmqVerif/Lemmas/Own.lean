import ZmqVerif.Model.Lifecycle
namespace Zmq.Own
open Node

/-- the leak (D15): with an armed waker and no repair, nothing on the cycle is freed -/
theorem cycle_leaks (g : Cfg) (c : Nat) (hreg : g.registered c = true) (harm : g.armed c = true)
    (hfix : g.fqDropsStreams = false) :
    ¬ Freed g (rhalf c) ∧ ¬ Freed g (transport c) ∧ ¬ Freed g (waker c) ∧ ¬ Freed g qinner := by
  -- no node of the cycle rhalf → transport → waker → qinner → rhalf can be freed
  have key : ∀ x, Freed g x → x ≠ rhalf c ∧ x ≠ transport c ∧ x ≠ waker c ∧ x ≠ qinner := by
    intro x hx
    induction hx with
    | intro x hroot howners ih =>
      refine ⟨?_, ?_, ?_, ?_⟩
      · rintro rfl
        exact (ih qinner (by simp [owns, hreg, hfix])).2.2.2 rfl
      · rintro rfl
        exact (ih (rhalf c) (by simp [owns])).1 rfl
      · rintro rfl
        exact (ih (transport c) (by simp [owns, harm])).2.1 rfl
      · rintro rfl
        exact (ih (waker c) (by simp [owns])).2.2.1 rfl
  exact ⟨fun h => (key _ h).1 rfl, fun h => (key _ h).2.1 rfl, fun h => (key _ h).2.2.1 rfl,
         fun h => (key _ h).2.2.2 rfl⟩

theorem freed_sock (g : Cfg) (hdrop : g.sockHeld = false) : Freed g sock :=
  ⟨_, by simp [root, hdrop], by intro y hy; cases y <;> simp [owns] at hy⟩

theorem freed_stopTx (g : Cfg) (hdrop : g.sockHeld = false) (e : Nat) : Freed g (stopTx e) :=
  ⟨_, by simp [root], by intro y hy; cases y <;> simp [owns] at hy; exact freed_sock g hdrop⟩

theorem freed_acceptTask (g : Cfg) (hdrop : g.sockHeld = false) (e : Nat) : Freed g (acceptTask e) :=
  ⟨_, by simp [root], by intro y hy; cases y <;> simp [owns] at hy; subst hy; exact freed_stopTx g hdrop _⟩

/-- The ownership argument behind every "is closed" statement: the socket is gone and every handshake still
running is one that its listener's stop signal ends (`hhs`: none is running, or the D14 repair is in); then the
transport of connection `c` is freed as soon as the fair queue lets go of its read half (`hrd`: `c` was never
registered, or the D15 repair is in).
Walk: sock → stop senders → handshake and accept tasks → backend → both halves → transport. -/
theorem transport_freed (g : Cfg) (hdrop : g.sockHeld = false)
    (hhs : ∀ c, g.handshaking c = true → g.hsStops = true) (c : Nat)
    (hrd : g.registered c = true → g.fqDropsStreams = true) : Freed g (transport c) := by
  have fhs : ∀ c, Freed g (hsTask c) := fun c =>
    ⟨_, by simp only [root]; exact fun h => h.2 (hhs c h.1), by
      intro y hy; cases y <;> simp [owns] at hy
      exact freed_stopTx g hdrop _⟩
  have fback : Freed g backend :=
    ⟨_, by simp [root], by
      intro y hy; cases y <;> simp [owns] at hy
      · exact freed_sock g hdrop
      · exact freed_acceptTask g hdrop _
      · exact fhs _⟩
  have frh : Freed g (rhalf c) :=
    ⟨_, by simp [root], by
      intro y hy; cases y <;> simp [owns, hdrop] at hy
      · -- `hy`: `c` is registered and the queue keeps its streams
        exact absurd (hrd hy.1) (by simp [hy.2])
      · exact fhs _⟩
  have fwh : Freed g (whalf c) :=
    ⟨_, by simp [root], by
      intro y hy; cases y <;> simp [owns] at hy
      · exact fback
      · exact fhs _⟩
  exact ⟨_, by simp [root], by
    intro y hy; cases y <;> simp [owns] at hy
    · subst hy; exact frh
    · subst hy; exact fwh⟩

theorem dropped_closes (g : Cfg) (hdrop : g.sockHeld = false) (hfix : g.fqDropsStreams = true)
    (hnohs : ∀ c, g.handshaking c = false) (c : Nat) : Freed g (transport c) :=
  transport_freed g hdrop (fun c h => Bool.noConfusion ((hnohs c).symm.trans h)) c fun _ => hfix

/-- before the repair (D14): a pending handshake is *not* closed by dropping/closing the socket —
the detached task keeps both halves alive for as long as the peer stalls -/
theorem pending_handshake_survives (g : Cfg) (c : Nat) (hhs : g.handshaking c = true)
    (hfix : g.hsStops = false) : ¬ Freed g (rhalf c) := by
  intro h
  cases h with
  | intro _ _ howners =>
    have := howners (hsTask c) (by simp [owns, hhs])
    cases this with
    | intro _ hroot _ => exact hroot (by simp [root, hhs, hfix])

/-- after the repair: a handshake task is owned by its listener's stop sender, so once the socket
is dropped (or closed) a connection still in its handshake is closed too -/
theorem pending_handshake_closed (g : Cfg) (hdrop : g.sockHeld = false) (hfix : g.hsStops = true)
    (c : Nat) (hhs : g.handshaking c = true) (hnr : g.registered c = false) :
    Freed g (transport c) :=
  -- `hhs` is not needed: an unregistered connection is closed whether or not its handshake is still running
  transport_freed g hdrop (fun _ _ => hfix) c fun h => Bool.noConfusion (hnr.symm.trans h)

end Zmq.Own
