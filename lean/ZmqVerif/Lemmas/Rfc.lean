import ZmqVerif.Model.Wire
import ZmqVerif.Spec.Rfc23
import ZmqVerif.Lemmas.Bytes
namespace Zmq
open Rfc

theorem parseFrame_encodeFrame (more : Bool) (body tail : Bytes) (h : body.length < 2 ^ 64) :
    parseFrame (encodeFrame more body ++ tail)
      = some ({ more := more, command := false, body := body }, tail) := by
  unfold encodeFrame frameHeader
  -- `cases more` makes the flags octet a literal, so that `decide` evaluates the bit tests
  split
  · have h5 : ¬ body.length ≤ 255 := by omega
    cases more <;> simp +decide [parseFrame, List.take_left' (be_length 8 _), List.drop_left' (be_length 8 _),
      beNat_be_of_lt (k := 8) h, h5]
  · cases more <;> simp +decide [parseFrame, ofNat_toNat_small body.length (by omega)]

theorem encodeFrame_ne_nil (more : Bool) (body : Bytes) : encodeFrame more body ≠ [] := by
  simp [encodeFrame, frameHeader]; split <;> simp

theorem encodeMsg_cons (f : Bytes) (fs : List Bytes) :
    encodeMsg (f :: fs) = encodeFrame (!fs.isEmpty) f ++ encodeMsg fs := by
  cases fs <;> simp [encodeMsg]

theorem tagMore_cons (f : Bytes) (fs : List Bytes) :
    tagMore (f :: fs) = { more := !fs.isEmpty, command := false, body := f } :: tagMore fs := by
  cases fs <;> rfl

theorem encodeMsg_ne_nil (fs : List Bytes) (h : fs ≠ []) : encodeMsg fs ≠ [] := by
  cases fs with
  | nil => exact absurd rfl h
  | cons f fs => simp [encodeMsg_cons, encodeFrame_ne_nil]

theorem parseFrames_nil : parseFrames [] = some [] := by
  rw [parseFrames]; rfl

theorem parseFrames_cons {bs rest : Bytes} {f : RFrame} (hne : bs ≠ [])
    (hp : parseFrame bs = some (f, rest)) :
    parseFrames bs = (parseFrames rest).map (f :: ·) := by
  rw [parseFrames]
  simp only [hne, ↓reduceDIte]
  split
  · rename_i h; rw [hp] at h; simp at h
  · rename_i f' rest' h
    rw [hp] at h; simp at h; obtain ⟨rfl, rfl⟩ := h
    cases parseFrames rest <;> simp

theorem parseFrames_encodeMsg_append (fs : List Bytes) (h64 : ∀ f ∈ fs, f.length < 2 ^ 64)
    (tail : Bytes) :
    parseFrames (encodeMsg fs ++ tail) = (parseFrames tail).map (tagMore fs ++ ·) := by
  induction fs with
  | nil => simp [encodeMsg, tagMore]
  | cons f fs ih =>
    rw [encodeMsg_cons, List.append_assoc, parseFrames_cons (by simp [encodeFrame_ne_nil])
      (parseFrame_encodeFrame _ f _ (h64 f (by simp))), ih (fun x hx => h64 x (by simp [hx])), tagMore_cons]
    cases parseFrames tail <;> simp

end Zmq
