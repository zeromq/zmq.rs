import ZmqVerif.Lemmas.WorldHist
/-! The handshake future against the connection's byte stream, "only if": the invariant `HS`, kept by every poll
(`attachPoll_hs`), by arriving bytes and by whatever leaves the connection's waiting bytes alone. -/
namespace Zmq.W
open Zmq

/-- `negotiate_version` -/
def vok (g : Greeting) : Prop := g.major.toNat > 3 ∨ (g.major.toNat = 3 ∧ g.minor.toNat ≥ 0)

/-- **The handshake invariant.**  `total` is the decode of the connection's WHOLE byte stream so far (from its
first byte).  Whatever stage the handshake future is in, `total` is exactly what the future has consumed so
far followed by what its reader still has in front of it. -/
def HS (t : SockType) (total : RunOut) (stage : AStage) (rd : Rd) (ps : Pipes) : Prop :=
  match stage with
  | .sendGreeting _ => total = rd.rem ps
  | .readGreeting => total = rd.rem ps
  | .sendReady _ => ∃ g, total = (rd.rem ps).pre [.greeting g] ∧ vok g
  | .readReady => ∃ g, total = (rd.rem ps).pre [.greeting g] ∧ vok g
  | .resub ident _ _ => ∃ g props fresh fresh', total = (rd.rem ps).pre [.greeting g, .command props] ∧ vok g ∧
      admitPeer t props fresh = .ok (ident, fresh')

/-- what an admitted connection's byte stream looks like -/
def Admitted (t : SockType) (total : RunOut) (ident : Ident) : Prop :=
  ∃ g props rest fresh fresh', total.items = .greeting g :: .command props :: rest ∧ vok g ∧
    admitPeer t props fresh = .ok (ident, fresh')

theorem HS.frame {t : SockType} {total : RunOut} {stage : AStage} {rd : Rd} {ps ps' : Pipes}
    (h : HS t total stage rd ps) (hf : inbufOf ps' rd.pipe = inbufOf ps rd.pipe) : HS t total stage rd ps' := by
  have : rd.rem ps' = rd.rem ps := Rd.rem_frame rd hf
  cases stage <;> simp only [HS] at h ⊢ <;> rw [this] <;> exact h

theorem HS.reveal {t : SockType} {total : RunOut} {stage : AStage} {rd : Rd} {ps ps' : Pipes} (x : Bytes)
    (h : HS t total stage rd ps) (hin : inbufOf ps' rd.pipe = inbufOf ps rd.pipe ++ x) :
    HS t (total.extend x) stage rd ps' := by
  cases stage with
  | sendGreeting _ | readGreeting => exact h ▸ (Rd.rem_reveal rd x hin).symm
  | sendReady _ | readReady =>
    obtain ⟨g, rfl, hv⟩ := h
    exact ⟨g, by rw [Rd.rem_reveal rd x hin, extend_pre], hv⟩
  | resub _ _ _ =>
    obtain ⟨g, props, f1, f2, rfl, h2⟩ := h
    exact ⟨g, props, f1, f2, by rw [Rd.rem_reveal rd x hin, extend_pre], h2⟩

/-- what `attachPoll_spec` says of the outcome `r` of a poll, as a predicate on `r`: stated of the call itself, every
branch of `attachPoll` is closed by a term and no equation between results has to be taken apart -/
def HSPost (t : SockType) (total : RunOut) (p : Nat) (r : World × FutSt × POut) : Prop :=
  match r.2.1, r.2.2 with
  | .attach _ _ stage' rd' _, .pending => rd'.pipe = p ∧ HS t total stage' rd' r.1.pipes
  | _, .ready (.okId ident) => Admitted t total ident
  | _, .ready (.err _) => True
  | _, _ => False

theorem HS.admitted {t : SockType} {total : RunOut} {ident : Ident} {todo : List Bytes} {cur : Option SendSt} {rd : Rd}
    {ps : Pipes} (h : HS t total (.resub ident todo cur) rd ps) : Admitted t total ident := by
  obtain ⟨g, props, f1, f2, h1, h2, h3⟩ := h
  exact ⟨g, props, (rd.rem ps).items, f1, f2, by rw [h1]; rfl, h2, h3⟩

theorem attachPoll_hs (fuel : Nat) (w : World) (sid pid : Nat) (stage : AStage) (rd : Rd) (wr : Wr)
    (s : Socket) (hs : getSock w sid = some s) (total : RunOut) (hinv : HS s.typ total stage rd w.pipes) :
    HSPost s.typ total rd.pipe (attachPoll fuel w sid pid stage rd wr) := by
  induction fuel generalizing w stage rd wr with
  | zero => exact ⟨rfl, hinv⟩
  | succ fuel ih =>
    -- `HS` does not look at the state of the send, and a sending stage and the stage after it have consumed the
    -- same, so `hsend` serves `Pending` and `Ready` alike
    have hsend : ∀ {st ps1 wr1 st1 r}, wrSendPoll w.pipes wr st = (ps1, wr1, st1, r) → HS s.typ total stage rd ps1 := by
      intro st ps1 wr1 st1 r hq
      have := inbufOf_wrSendPoll w.pipes wr st rd.pipe
      rw [hq] at this
      exact hinv.frame this
    rcases hrp : readerPoll (readFuel w.pipes rd) w.pipes rd .user with ⟨r0, ps0, rd0⟩
    obtain ⟨hp, -, hres⟩ := readerPoll_spec _ w.pipes rd _ (readFuel_ok w.pipes rd) r0 ps0 rd0 hrp
    cases stage with
    | sendGreeting st | sendReady st =>
      simp only [attachPoll, hs]
      rcases hq : wrSendPoll w.pipes wr st with ⟨ps1, wr1, st1, r⟩
      cases r with
      | pending => exact ⟨rfl, hsend hq⟩
      | error => trivial
      | done => exact ih _ _ _ _ hs (hsend hq)
    | resub ident todo cur =>
      simp only [attachPoll, hs]
      cases cur with
      | some st =>
        simp only
        rcases hq : wrSendPoll w.pipes wr st with ⟨ps1, wr1, st1, r⟩
        cases r with
        | pending => exact ⟨rfl, hsend hq⟩
        | error => exact hinv.admitted
        | done => exact ih _ _ _ _ hs (hsend hq)
      | none =>
        cases todo with
        | cons t rest => exact ih w (.resub ident rest (some _)) rd wr hs hinv
        | nil => simp only; split <;> exact hinv.admitted
    | readGreeting =>
      simp only [attachPoll, hs, hrp]
      have hinv : total = rd.rem w.pipes := hinv
      cases r0 with
      | pending => exact ⟨hp, hinv.trans hres.1⟩
      | item i =>
        cases i with
        | greeting g =>
          simp only
          split
          · rename_i hv
            exact hp ▸ ih { w with pipes := ps0 } _ rd0 wr hs ⟨g, hinv.trans hres, hv⟩
          · trivial
        | _ => trivial
      | _ => trivial
    | readReady =>
      simp only [attachPoll, hs, hrp]
      obtain ⟨g, hg, hv⟩ := hinv
      cases r0 with
      | pending => exact ⟨hp, g, by rw [hg, hres.1], hv⟩
      | item i =>
        cases i with
        | command props =>
          simp only at hres ⊢
          cases had : admitPeer s.typ props w.fresh with
          | error e => trivial
          | ok r =>
            have hnext : HS s.typ total (.resub r.1 s.subs none) rd0 ps0 :=
              ⟨g, props, w.fresh, r.2, by rw [hg, hres, RunOut.pre_pre]; rfl, hv, had⟩
            simp only
            split
            · exact hp ▸ ih { w with pipes := ps0, fresh := r.2 } _ rd0 wr hs hnext
            · split <;> exact hnext.admitted
        | _ => trivial
      | _ => trivial

/-- **One poll of the handshake future keeps the invariant; if it completes with `Ok(identity)`, the
connection's byte stream begins with an acceptable greeting and an admissible READY.**  For every stage,
every segmentation, every state of the write side (back-pressure, errors), SUB's re-announcement included. -/
theorem attachPoll_spec (fuel : Nat) (w : World) (sid pid : Nat) (stage : AStage) (rd : Rd) (wr : Wr)
    (s : Socket) (hs : getSock w sid = some s) (total : RunOut) (hinv : HS s.typ total stage rd w.pipes)
    (p : Nat) (hpipe : rd.pipe = p) (w' : World) (f' : FutSt) (o : POut) (h : attachPoll fuel w sid pid stage rd wr = (w', f', o)) :
    match (generalizing := false) f', o with
    | .attach _ _ stage' rd' _, .pending => rd'.pipe = p ∧ HS s.typ total stage' rd' w'.pipes
    | _, .ready (.okId ident) => Admitted s.typ total ident
    | _, .ready (.err _) => True
    | _, _ => False := by
  have := attachPoll_hs fuel w sid pid stage rd wr s hs total hinv
  rw [h, hpipe] at this
  exact this

end Zmq.W
