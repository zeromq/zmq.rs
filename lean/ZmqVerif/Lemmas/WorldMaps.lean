import ZmqVerif.Model.World
/-! The laws of the composition's maps and pipes, and what forgetting or registering a peer leaves behind: the socket
in closed form (`peerDisconnected_eq`), the pipes up to released halves (`Released`). -/
namespace Zmq.W

theorem lookup_insert_same {α} (m : List (Nat × α)) (k : Nat) (v : α) : lookup (insert m k v) k = some v := by
  induction m with
  | nil => simp [insert, lookup]
  | cons e t ih =>
    simp only [insert]
    split
    · simp [lookup]
    · rename_i h; simp [lookup, h, ih]

theorem lookup_insert_other {α} (m : List (Nat × α)) (k j : Nat) (v : α) (h : j ≠ k) :
    lookup (insert m k v) j = lookup m j := by
  have hkj : (k == j) = false := by simpa using fun x => h x.symm
  induction m with
  | nil => simp [insert, lookup, hkj]
  | cons e t ih =>
    simp only [insert]
    split
    · rename_i he
      have : e.1 = k := by simpa using he
      have hej : (e.1 == j) = false := by rw [this]; exact hkj
      simp [lookup, hkj, hej]
    · simp only [lookup, ih]

theorem ilookup_iinsert_same {α} (m : List (Ident × α)) (k : Ident) (v : α) :
    ilookup (iinsert m k v) k = some v := by
  induction m with
  | nil => simp [iinsert, ilookup]
  | cons e t ih =>
    simp only [iinsert]
    split
    · simp [ilookup]
    · rename_i h; simp [ilookup, h, ih]

theorem ilookup_iinsert_other {α} (m : List (Ident × α)) (k j : Ident) (v : α) (h : j ≠ k) :
    ilookup (iinsert m k v) j = ilookup m j := by
  have hkj : (k == j) = false := by simpa using fun x => h x.symm
  induction m with
  | nil => simp [iinsert, ilookup, hkj]
  | cons e t ih =>
    simp only [iinsert]
    split
    · rename_i he
      have : e.1 = k := by simpa using he
      have hej : (e.1 == j) = false := by rw [this]; exact hkj
      simp [ilookup, hkj, hej]
    · simp only [ilookup, ih]

theorem mem_keys_of_ilookup {α} (m : List (Ident × α)) (k : Ident) (v : α) (h : ilookup m k = some v) :
    k ∈ m.map (·.1) := by
  fun_induction ilookup m k with
  | case1 => cases h
  | case2 e t k he => exact List.mem_cons.mpr (.inl (beq_iff_eq.mp he).symm)
  | case3 e t k _ ih => exact List.mem_cons_of_mem _ (ih h)

theorem ilookup_ierase_same {α} (m : List (Ident × α)) (k : Ident) : ilookup (ierase m k) k = none := by
  induction m with
  | nil => rfl
  | cons e t ih =>
    simp only [ierase, List.filter_cons]
    split
    · rename_i h
      have : (e.1 == k) = false := by simpa using h
      simp only [ilookup, this]; exact ih
    · exact ih

theorem ilookup_ierase_other {α} (m : List (Ident × α)) (k j : Ident) (h : j ≠ k) :
    ilookup (ierase m k) j = ilookup m j := by
  induction m with
  | nil => rfl
  | cons e t ih =>
    simp only [ierase, List.filter_cons]
    split
    · simp only [ilookup]; split
      · rfl
      · exact ih
    · rename_i hk
      have hek : e.1 = k := by simpa using hk
      have : (e.1 == j) = false := by rw [hek]; simpa using fun x => h x.symm
      simp only [ilookup, this]; exact ih

theorem ierase_of_ilookup_none {α} {m : List (Ident × α)} {k : Ident} (h : ilookup m k = none) : ierase m k = m := by
  induction m with
  | nil => rfl
  | cons e t ih =>
    simp only [ilookup] at h
    split at h
    · cases h
    · rename_i he
      simp only [ierase, List.filter_cons, bne, he, Bool.not_false, ↓reduceIte, List.cons.injEq, true_and]
      exact ih h

@[simp] theorem ierase_ierase {α} (m : List (Ident × α)) (k : Ident) : ierase (ierase m k) k = ierase m k :=
  ierase_of_ilookup_none (ilookup_ierase_same m k)

theorem ilookup_append {α} (m : List (Ident × α)) (k j : Ident) (v : α) :
    ilookup (m ++ [(k, v)]) j = (ilookup m j).or (if k == j then some v else none) := by
  induction m with
  | nil => rfl
  | cons e t ih =>
    simp only [List.cons_append, ilookup]
    split
    · rfl
    · exact ih

theorem ilookup_putback_same {α} (m : List (Ident × α)) (k : Ident) (v : α) :
    ilookup (ierase m k ++ [(k, v)]) k = some v := by
  simp [ilookup_append, ilookup_ierase_same]

theorem ilookup_putback_other {α} (m : List (Ident × α)) (k j : Ident) (v : α) (h : j ≠ k) :
    ilookup (ierase m k ++ [(k, v)]) j = ilookup m j := by
  have : (k == j) = false := by simpa using fun x => h x.symm
  simp [ilookup_append, ilookup_ierase_other _ _ _ h, this]

theorem ierase_putback {α} (m : List (Ident × α)) (k : Ident) (v : α) :
    ierase (ierase m k ++ [(k, v)]) k = ierase m k := by
  simp [ierase, List.filter_append]

theorem getPipe_setPipe_same (ps : Pipes) (k : Nat) (p : Pipe) : getPipe (setPipe ps k p) k = p := by
  simp [getPipe, setPipe, lookup_insert_same]

theorem getPipe_setPipe_other (ps : Pipes) (k j : Nat) (p : Pipe) (h : j ≠ k) :
    getPipe (setPipe ps k p) j = getPipe ps j := by
  simp [getPipe, setPipe, lookup_insert_other _ _ _ _ h]

theorem getSock_setSock_same (w : World) (k : Nat) (s : Socket) : getSock (setSock w k s) k = some s := by
  simp [getSock, setSock, lookup_insert_same]

theorem setSock_pipes (w : World) (k : Nat) (s : Socket) : (setSock w k s).pipes = w.pipes := rfl

theorem getPipe_setPipe (ps : Pipes) (k j : Nat) (p : Pipe) :
    getPipe (setPipe ps k p) j = if j = k then p else getPipe ps j := by
  split
  · rename_i h; subst h; exact getPipe_setPipe_same _ _ _
  · rename_i h; exact getPipe_setPipe_other _ _ _ _ h

theorem getPipe_setPipe_proj {α} (f : Pipe → α) (ps : Pipes) (k : Nat) (p : Pipe) (j : Nat)
    (h : f p = f (getPipe ps k)) : f (getPipe (setPipe ps k p) j) = f (getPipe ps j) := by
  rw [getPipe_setPipe]
  split
  · rename_i hj; subst hj; exact h
  · rfl

def inbufOf (ps : Pipes) (j : Nat) : Bytes := (getPipe ps j).inbuf

def wOf (ps : Pipes) (j : Nat) : WPipe := (getPipe ps j).w

theorem inbufOf_setPipe_other (ps : Pipes) (k j : Nat) (p : Pipe) (h : j ≠ k) :
    inbufOf (setPipe ps k p) j = inbufOf ps j := by
  simp [inbufOf, getPipe_setPipe_other _ _ _ _ h]

theorem inbufOf_setPipe_same (ps : Pipes) (k : Nat) (p : Pipe) : inbufOf (setPipe ps k p) k = p.inbuf := by
  simp [inbufOf, getPipe_setPipe_same]

theorem wrSendPoll_frame (ps : Pipes) (wr : Wr) (st : SendSt) (j : Nat) (h : j ≠ wr.pipe) :
    getPipe (wrSendPoll ps wr st).1 j = getPipe ps j := by
  simp only [wrSendPoll]
  exact getPipe_setPipe_other _ _ _ _ h

theorem wrSendPoll_pipe (ps : Pipes) (wr : Wr) (st : SendSt) : (wrSendPoll ps wr st).2.1.pipe = wr.pipe := by
  simp [wrSendPoll]

theorem inbufOf_wrSendPoll (ps : Pipes) (wr : Wr) (st : SendSt) (j : Nat) :
    inbufOf (wrSendPoll ps wr st).1 j = inbufOf ps j :=
  getPipe_setPipe_proj Pipe.inbuf _ _ _ j rfl

theorem wrTrySend_pipe (ps : Pipes) (wr : Wr) (enc : Bytes) : (wrTrySend ps wr enc).2.1.pipe = wr.pipe := by
  simp [wrTrySend]

theorem wrTrySend_frame (ps : Pipes) (wr : Wr) (enc : Bytes) (j : Nat) (h : j ≠ wr.pipe) :
    getPipe (wrTrySend ps wr enc).1 j = getPipe ps j := by
  simp only [wrTrySend]
  exact getPipe_setPipe_other _ _ _ _ h

theorem getPipe_dropW_other (ps : Pipes) (a j : Nat) (h : j ≠ a) : getPipe (dropW ps a) j = getPipe ps j := by
  simp [dropW, getPipe_setPipe_other _ _ _ _ h]

theorem getPipe_dropR_other (ps : Pipes) (a j : Nat) (h : j ≠ a) : getPipe (dropR ps a) j = getPipe ps j := by
  simp [dropR, getPipe_setPipe_other _ _ _ _ h]

def dropR? (ps : Pipes) : Option Rd → Pipes
  | some rd => dropR ps rd.pipe
  | none => ps

def dropW? (ps : Pipes) : Option Wr → Pipes
  | some wr => dropW ps wr.pipe
  | none => ps

theorem fqRemove_eq (ps : Pipes) (s : Socket) (k : Ident) :
    fqRemove ps s k = (dropR? ps (ilookup s.fqStreams k), { s with fqStreams := ierase s.fqStreams k }) := by
  unfold fqRemove
  cases h : ilookup s.fqStreams k with
  | none => simp only [dropR?, ierase_of_ilookup_none h]
  | some rd => rfl

/-- the read half a socket holds for peer `k`: REQ keeps it with the peer, PUB hands it to a reader task, PUSH drops it at
registration, every other type keeps it in its fair queue -/
def Socket.rdOf (s : Socket) (k : Ident) : Option Rd :=
  if s.typ = .req then ilookup s.reqRd k else if s.typ = .pub ∨ s.typ = .push then none else ilookup s.fqStreams k

/-- **`peer_disconnected(k)` in closed form**: both halves the socket holds for `k` are released, and `k` is erased from
every table of the socket that is keyed by peer (PUB: its reader task is told to stop). -/
theorem peerDisconnected_eq (ps : Pipes) (s : Socket) (k : Ident) :
    peerDisconnected ps s k =
      (dropR? (dropW? ps (ilookup s.peers k)) (s.rdOf k),
       { s with peers := ierase s.peers k,
                reqRd := if s.typ = .req then ierase s.reqRd k else s.reqRd,
                fqStreams := if s.typ = .req ∨ s.typ = .pub ∨ s.typ = .push then s.fqStreams else ierase s.fqStreams k,
                subsOf := if s.typ = .pub ∨ s.typ = .xpub then ierase s.subsOf k else s.subsOf,
                readers := if s.typ = .pub then
                    s.readers.map (fun e => if e.2.1 == k then (e.1, e.2.1, e.2.2.1, false) else e)
                  else s.readers }) := by
  unfold peerDisconnected
  simp only [fqRemove_eq, Socket.rdOf]
  -- what `simp` leaves in each case is `(match ilookup s.peers k with …) = dropW? ps (ilookup s.peers k)`
  split
  · rename_i h
    cases hq : ilookup s.reqRd k with
    | none => simp [h, dropR?, ierase_of_ilookup_none hq]; rfl
    | some rd => simp [h, dropR?]; rfl
  · rename_i h; simp [h, dropR?]; rfl
  · rename_i h; simp [h]; rfl
  · rename_i h; simp [h, dropR?]; rfl
  · rename_i h1 h2 h3 h4
    have h1 : s.typ ≠ .req := h1
    have h2 : s.typ ≠ .pub := h2
    have h3 : s.typ ≠ .xpub := h3
    have h4 : s.typ ≠ .push := h4
    simp [h1, h2, h3, h4]; rfl

/-- `ps'` is `ps` with some halves released: a pipe differs at most in its two `Drop` flags and its read waker — the
bytes waiting on the read side, the write side and the scripted faults are the same -/
def Released (ps ps' : Pipes) : Prop :=
  ∀ j, ∃ r w k, getPipe ps' j = { getPipe ps j with rDropped := r, wDropped := w, rwaker := k }

theorem Released.refl (ps : Pipes) : Released ps ps := fun _ => ⟨_, _, _, rfl⟩

theorem Released.trans {ps ps1 ps2 : Pipes} (a : Released ps ps1) (b : Released ps1 ps2) : Released ps ps2 := fun j => by
  obtain ⟨r, w, k, h⟩ := a j
  obtain ⟨r', w', k', h'⟩ := b j
  exact ⟨r', w', k', by rw [h', h]⟩

theorem Released.inbuf {ps ps' : Pipes} (h : Released ps ps') (j : Nat) : inbufOf ps' j = inbufOf ps j := by
  obtain ⟨_, _, _, e⟩ := h j; rw [inbufOf, e]; rfl

theorem Released.w {ps ps' : Pipes} (h : Released ps ps') (j : Nat) : wOf ps' j = wOf ps j := by
  obtain ⟨_, _, _, e⟩ := h j; rw [wOf, e]; rfl

theorem released_setPipe (ps : Pipes) (a : Nat) (r w : Bool) (k : Option RWaker) :
    Released ps (setPipe ps a { getPipe ps a with rDropped := r, wDropped := w, rwaker := k }) := fun j => by
  rw [getPipe_setPipe]
  split
  · rename_i h; subst h; exact ⟨_, _, _, rfl⟩
  · exact ⟨_, _, _, rfl⟩

theorem released_dropR (ps : Pipes) (a : Nat) : Released ps (dropR ps a) := released_setPipe ps a _ _ _

theorem released_dropW (ps : Pipes) (a : Nat) : Released ps (dropW ps a) := released_setPipe ps a _ _ _

theorem inbufOf_dropR (ps : Pipes) (a j : Nat) : inbufOf (dropR ps a) j = inbufOf ps j := (released_dropR ps a).inbuf j

theorem inbufOf_dropW (ps : Pipes) (a j : Nat) : inbufOf (dropW ps a) j = inbufOf ps j := (released_dropW ps a).inbuf j

theorem wOf_dropR (ps : Pipes) (a j : Nat) : wOf (dropR ps a) j = wOf ps j := (released_dropR ps a).w j

theorem wOf_dropW (ps : Pipes) (a j : Nat) : wOf (dropW ps a) j = wOf ps j := (released_dropW ps a).w j

theorem released_dropR? (ps : Pipes) (o : Option Rd) : Released ps (dropR? ps o) := by
  cases o
  · exact .refl _
  · exact released_dropR _ _

theorem released_dropW? (ps : Pipes) (o : Option Wr) : Released ps (dropW? ps o) := by
  cases o
  · exact .refl _
  · exact released_dropW _ _

theorem getPipe_dropR?_other (ps : Pipes) (o : Option Rd) (j : Nat) (h : ∀ rd, o = some rd → j ≠ rd.pipe) :
    getPipe (dropR? ps o) j = getPipe ps j := by
  cases o
  · rfl
  · exact getPipe_dropR_other _ _ _ (h _ rfl)

theorem getPipe_dropW?_other (ps : Pipes) (o : Option Wr) (j : Nat) (h : ∀ wr, o = some wr → j ≠ wr.pipe) :
    getPipe (dropW? ps o) j = getPipe ps j := by
  cases o
  · rfl
  · exact getPipe_dropW_other _ _ _ (h _ rfl)

theorem peerDisconnected_released (ps : Pipes) (s : Socket) (k : Ident) : Released ps (peerDisconnected ps s k).1 := by
  rw [peerDisconnected_eq]
  exact (released_dropW? _ _).trans (released_dropR? _ _)

theorem peerDisconnected_inbuf (ps : Pipes) (s : Socket) (k : Ident) (j : Nat) :
    inbufOf (peerDisconnected ps s k).1 j = inbufOf ps j :=
  (peerDisconnected_released ps s k).inbuf j

theorem peerDisconnected_wOf (ps : Pipes) (s : Socket) (k : Ident) (j : Nat) :
    wOf (peerDisconnected ps s k).1 j = wOf ps j := (peerDisconnected_released ps s k).w j

theorem peerDisconnected_frame (ps : Pipes) (s : Socket) (k : Ident) (j : Nat)
    (hw : ∀ wr, ilookup s.peers k = some wr → j ≠ wr.pipe)
    (hr : ∀ rd, ilookup s.fqStreams k = some rd → j ≠ rd.pipe)
    (hq : ∀ rd, ilookup s.reqRd k = some rd → j ≠ rd.pipe) :
    getPipe (peerDisconnected ps s k).1 j = getPipe ps j := by
  rw [peerDisconnected_eq, getPipe_dropR?_other, getPipe_dropW?_other _ _ _ hw]
  intro rd h
  unfold Socket.rdOf at h
  split at h
  · exact hq rd h
  · split at h
    · cases h
    · exact hr rd h

theorem peerDisconnected_typ (ps : Pipes) (s : Socket) (k : Ident) : (peerDisconnected ps s k).2.typ = s.typ := by
  rw [peerDisconnected_eq]

theorem peerDisconnected_fqStreams (ps : Pipes) (s : Socket) (k : Ident)
    (h : hasFq s.typ = true ∨ ilookup s.fqStreams k = none) :
    (peerDisconnected ps s k).2.fqStreams = ierase s.fqStreams k := by
  rw [peerDisconnected_eq]
  simp only
  split
  · rename_i ht
    rcases h with h | h
    · rcases ht with ht | ht | ht <;> simp [ht, hasFq] at h
    · exact (ierase_of_ilookup_none h).symm
  · rfl

theorem peerDisconnected_subsOf (ps : Pipes) (s : Socket) (k : Ident) :
    (peerDisconnected ps s k).2.subsOf = s.subsOf ∨ (peerDisconnected ps s k).2.subsOf = ierase s.subsOf k := by
  rw [peerDisconnected_eq]
  simp only
  split
  · exact .inr rfl
  · exact .inl rfl

theorem peerDisconnected_subsOf_other (ps : Pipes) (s : Socket) (k j : Ident) (h : j ≠ k) :
    ilookup (peerDisconnected ps s k).2.subsOf j = ilookup s.subsOf j := by
  rcases peerDisconnected_subsOf ps s k with e | e <;> rw [e]
  exact ilookup_ierase_other _ _ _ h

theorem peerDisconnected_subsOf_keep_or_gone (ps : Pipes) (s : Socket) (k j : Ident) :
    ilookup (peerDisconnected ps s k).2.subsOf j = none ∨
    ilookup (peerDisconnected ps s k).2.subsOf j = ilookup s.subsOf j := by
  by_cases hj : j = k
  · subst hj
    rcases peerDisconnected_subsOf ps s j with e | e <;> rw [e]
    · exact .inr rfl
    · exact .inl (ilookup_ierase_same _ _)
  · exact .inr (peerDisconnected_subsOf_other ps s k j hj)

theorem register_released (ps : Pipes) (s : Socket) (k : Ident) (rd : Rd) (wr : Wr) :
    Released ps (register ps s k rd wr).1 := by
  have hw := released_dropW? ps (ilookup s.peers k)
  have hfq := fun ps => released_dropR? ps (ilookup s.fqStreams k)
  unfold register
  simp only
  -- REQ, REP, PUB, XPUB, PUSH, the others
  split
  · exact hw.trans (released_dropR? _ (ilookup s.reqRd k))
  · exact hw.trans (hfq _)
  · exact hw
  · exact hw.trans (hfq _)
  · exact hw.trans (released_dropR _ _)
  · exact hw.trans (hfq _)

theorem register_peers (ps : Pipes) (s : Socket) (k : Ident) (rd : Rd) (wr : Wr) :
    ilookup (register ps s k rd wr).2.peers k = some wr := by
  unfold register
  simp only
  split <;> exact ilookup_iinsert_same _ _ _

end Zmq.W
