theorem List.foldl_inv {σ ι} {P : σ → Prop} {f : σ → ι → σ} (hstep : ∀ s i, P s → P (f s i))
    (l : List ι) {s : σ} (h : P s) : P (l.foldl f s) := by
  induction l generalizing s with
  | nil => exact h
  | cons i l ih => exact ih (hstep s i h)
