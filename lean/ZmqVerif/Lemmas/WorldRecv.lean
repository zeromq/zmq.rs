import ZmqVerif.Lemmas.WorldMaps
import ZmqVerif.Lemmas.Segment
import ZmqVerif.Lemmas.Decode
/-!
# The receive path of the composition (`Model.World`): reader → fair queue → `recv`

`readerPoll` (FramedRead over a scripted pipe), `fqPoll` (the fair queue's loop) and `recvPoll`
(the socket's loop that skips non-message items) are related here to the **byte streams** of
the connections: whatever a poll hands out is the next item of exactly one connection's
stream, as `run` (C02's decoder run) decodes it, and no other connection's stream is touched.
-/
namespace Zmq.W
open Zmq

/-- what the rest of the connection's byte stream (read buffer + bytes waiting in the pipe) decodes to -/
def Rd.rem (ps : Pipes) (rd : Rd) : RunOut := run rd.dec (rd.buf ++ inbufOf ps rd.pipe)

def Rd.items (ps : Pipes) (rd : Rd) : List Item := (rd.rem ps).items


theorem Rd.rem_eq (ps : Pipes) (rd : Rd) :
    rd.rem ps =
      match decodeOnce rd with
      | .none d b => run d (b ++ inbufOf ps rd.pipe)
      | .item i d b => (run d (b ++ inbufOf ps rd.pipe)).pre [i]
      | .fail e d b => ⟨[], some e, none, d, b ++ inbufOf ps rd.pipe⟩
      | .panic s d b => ⟨[], none, some s, d, b ++ inbufOf ps rd.pipe⟩ :=
  run_append_decode _ _ _

theorem Rd.items_of_rem {ps ps' : Pipes} {rd rd' : Rd} {l : List Item} (h : rd.rem ps = (rd'.rem ps').pre l) :
    rd.items ps = l ++ rd'.items ps' := by
  rw [Rd.items, h]; rfl

theorem Rd.rem_frame {ps ps' : Pipes} (rd : Rd) (h : inbufOf ps' rd.pipe = inbufOf ps rd.pipe) :
    rd.rem ps' = rd.rem ps := by simp [Rd.rem, h]

theorem Rd.items_frame (ps ps' : Pipes) (rd : Rd) (h : inbufOf ps' rd.pipe = inbufOf ps rd.pipe) :
    rd.items ps' = rd.items ps :=
  congrArg RunOut.items (Rd.rem_frame rd h)

theorem Rd.rem_none {ps : Pipes} {rd : Rd} {d : Dec} {b : Bytes} (hd : decodeOnce rd = .none d b) :
    Rd.rem ps { rd with dec := d, buf := b } = rd.rem ps := by
  rw [Rd.rem_eq ps rd, hd]; rfl

theorem Rd.rem_read (ps : Pipes) (rd : Rd) (n : Nat) :
    Rd.rem (setPipe ps rd.pipe { getPipe ps rd.pipe with inbuf := (getPipe ps rd.pipe).inbuf.drop n })
      { rd with buf := rd.buf ++ (getPipe ps rd.pipe).inbuf.take n } = rd.rem ps := by
  simp only [Rd.rem, inbufOf_setPipe_same, List.append_assoc, List.take_append_drop]
  rfl

theorem Rd.items_stuck {ps : Pipes} {rd : Rd} {d : Dec} {b : Bytes} (hd : decodeOnce rd = .none d b)
    (he : (getPipe ps rd.pipe).inbuf.isEmpty = true) : rd.items ps = [] := by
  have he' : inbufOf ps rd.pipe = [] := by simpa [inbufOf] using he
  rw [Rd.items, Rd.rem_eq, hd]
  simp only [he', List.append_nil]
  rw [run_stuck _ _ (decode_none_stuck hd)]

/-- What one poll of a framed reader means for its connection's stream: an item handed out is
the FIRST item of the stream and the rest of the stream is what the reader goes on with;
`Pending`, end-of-stream and errors are reported only when no complete item is left; no other
pipe is touched. -/
theorem readerPoll_spec (fuel : Nat) (ps : Pipes) (rd : Rd) (who : RWaker)
    (hf : (inbufOf ps rd.pipe).length < fuel) (r : ReadRes) (ps' : Pipes) (rd' : Rd)
    (h : readerPoll fuel ps rd who = (r, ps', rd')) :
    rd'.pipe = rd.pipe ∧ (∀ j, j ≠ rd.pipe → inbufOf ps' j = inbufOf ps j) ∧
    (match (generalizing := false) r with
     | .item i => rd.rem ps = (rd'.rem ps').pre [i]
     | .pending => rd.rem ps = rd'.rem ps' ∧ rd.items ps = []
     | _ => rd.items ps = []) := by
  obtain ⟨rfl, rfl, rfl⟩ : (readerPoll fuel ps rd who).1 = r ∧ (readerPoll fuel ps rd who).2.1 = ps' ∧
      (readerPoll fuel ps rd who).2.2 = rd' := by rw [h]; exact ⟨rfl, rfl, rfl⟩
  clear h
  revert hf
  unfold Rd.items
  fun_induction readerPoll fuel ps rd who
  case case1 => intro hf; omega
  case case2 hd => exact fun _ => ⟨rfl, fun _ _ => rfl, by rw [Rd.rem_eq, hd]; rfl⟩
  case case3 hd | case4 hd => exact fun _ => ⟨rfl, fun _ _ => rfl, by rw [Rd.rem_eq, hd]⟩
  -- from here on the decoder is stuck on the read buffer (`hd`); first: no byte waits in the pipe (`he`)
  case case5 hd _ _ he _ | case6 hd _ _ he _ _ _ | case10 hd _ _ he _ _ _ _ _ _ _ | case11 hd _ _ he _ _ _ _ _ _ _ =>
    exact fun _ => ⟨rfl, fun _ _ => rfl, Rd.items_stuck hd he⟩
  -- `decode_eof` decodes the same buffer again: stuck again
  case case7 hd _ _ _ _ _ _ _ _ _ hd2 | case8 hd _ _ _ _ _ _ _ _ _ hd2 | case9 hd _ _ _ _ _ _ _ _ _ hd2 =>
    rw [decodeOnce, decode_short (decode_none_stuck hd)] at hd2; cases hd2
  case case12 ps rd who d b hd rd1 p he _ _ =>
    -- `Pending`: only the waker is registered
    exact fun _ => ⟨rfl, fun j hj => inbufOf_setPipe_other _ _ _ _ hj,
      ((Rd.rem_frame rd1 (inbufOf_setPipe_same ps _ { p with rwaker := some who })).trans (Rd.rem_none hd)).symm,
      Rd.items_stuck hd he⟩
  case case13 fuel ps rd who d b hd rd1 p he n ih =>
    -- bytes wait: up to 8 KiB move from the pipe to the read buffer, the stream is the same
    intro hf
    have hpos : 0 < p.inbuf.length := List.length_pos_iff.mpr (by simpa using he)
    obtain ⟨h1, h2, h3⟩ := ih (by
      rw [inbufOf_setPipe_same, List.length_drop]
      have : p.inbuf.length < _ := hf
      omega)
    refine ⟨h1, fun j hj => (h2 j hj).trans (inbufOf_setPipe_other _ _ _ _ hj), ?_⟩
    rw [(Rd.rem_read ps rd1 n).trans (Rd.rem_none hd)] at h3
    exact h3

theorem readFuel_ok (ps : Pipes) (rd : Rd) : (inbufOf ps rd.pipe).length < readFuel ps rd := by
  simp [readFuel, inbufOf]

/-- the only branches that write a pipe at all register the waker (`Pending`) or take bytes out of `inbuf` -/
theorem readerPoll_wOf (fuel : Nat) (ps : Pipes) (rd : Rd) (who : RWaker) (j : Nat) :
    wOf (readerPoll fuel ps rd who).2.1 j = wOf ps j := by
  fun_induction readerPoll fuel ps rd who
  case case12 => exact getPipe_setPipe_proj Pipe.w _ _ _ j rfl
  case case13 ih => exact ih.trans (getPipe_setPipe_proj Pipe.w _ _ _ j rfl)
  all_goals rfl

/-- the converse of `readerPoll_spec` -/
theorem readerPoll_item {ps : Pipes} {rd : Rd} {i : Item} {rest : List Item} (who : RWaker)
    (h : rd.items ps = i :: rest) :
    ∃ ps' rd', readerPoll (readFuel ps rd) ps rd who = (.item i, ps', rd') ∧ rd'.pipe = rd.pipe ∧
      rd'.items ps' = rest ∧ ∀ j, wOf ps' j = wOf ps j := by
  rcases hr : readerPoll (readFuel ps rd) ps rd who with ⟨r, ps', rd'⟩
  obtain ⟨hp, -, h3⟩ := readerPoll_spec _ ps rd who (readFuel_ok ps rd) r ps' rd' hr
  have hw : ∀ j, wOf ps' j = wOf ps j := fun j => by
    have := readerPoll_wOf (readFuel ps rd) ps rd who j; rwa [hr] at this
  cases r with
  | item i' =>
    rw [Rd.items_of_rem h3] at h
    cases h
    exact ⟨ps', rd', rfl, hp, rfl, hw⟩
  | pending => rw [h3.2] at h; cases h
  | eof => rw [h3] at h; cases h
  | err e => rw [h3] at h; cases h

abbrev Streams := List (Ident × Rd)

/-- two connections never share a pipe -/
def PD (m : Streams) : Prop :=
  ∀ k j rd rd2, ilookup m k = some rd → ilookup m j = some rd2 → k ≠ j → rd.pipe ≠ rd2.pipe

/-- From `(ps, m)` to `(ps', m')` the items `c k` — and nothing else — were taken off the front of
connection `k`'s stream (the WHOLE remaining run — items, decoder state, leftover bytes, first error —
is the old one minus that prefix); a connection that is no longer registered had nothing
complete left; no connection appears from nowhere. -/
structure Step (ps : Pipes) (m : Streams) (ps' : Pipes) (m' : Streams) (c : Ident → List Item) : Prop where
  old : ∀ k rd', ilookup m' k = some rd' →
    ∃ rd, ilookup m k = some rd ∧ rd'.pipe = rd.pipe ∧ rd.rem ps = (rd'.rem ps').pre (c k)
  gone : ∀ k rd, ilookup m k = some rd → ilookup m' k = none → rd.items ps = c k
  nil : ∀ k, ilookup m k = none → c k = []

def nilC : Ident → List Item := fun _ => []
def oneC (k : Ident) (i : Item) : Ident → List Item := fun j => if j = k then [i] else []

theorem Step.trans {ps ps1 ps' : Pipes} {m m1 m' : Streams} {c1 c2 : Ident → List Item}
    (a : Step ps m ps1 m1 c1) (b : Step ps1 m1 ps' m' c2) : Step ps m ps' m' (fun k => c1 k ++ c2 k) := by
  refine ⟨?_, ?_, ?_⟩
  · intro k rd' h
    obtain ⟨rd1, h1, hp1, e1⟩ := b.old k rd' h
    obtain ⟨rd, h0, hp0, e0⟩ := a.old k rd1 h1
    exact ⟨rd, h0, hp1.trans hp0, by rw [e0, e1, RunOut.pre_pre]⟩
  · intro k rd h h'
    cases h1 : ilookup m1 k with
    | none => rw [a.gone k rd h h1, b.nil k h1, List.append_nil]
    | some rd1 =>
      obtain ⟨rd0, h0, _, e0⟩ := a.old k rd1 h1
      rw [h] at h0; cases h0
      rw [Rd.items_of_rem e0, b.gone k rd1 h1 h']
  · intro k h
    have h1 : ilookup m1 k = none := by
      cases h1 : ilookup m1 k with
      | none => rfl
      | some rd1 => obtain ⟨rd0, h0, _⟩ := a.old k rd1 h1; rw [h] at h0; cases h0
    rw [a.nil k h, b.nil k h1]; rfl

theorem Step.congr_c {ps ps' : Pipes} {m m' : Streams} {c c2 : Ident → List Item}
    (a : Step ps m ps' m' c) (h : ∀ k, c2 k = c k) : Step ps m ps' m' c2 := by
  have : c2 = c := funext h
  rw [this]; exact a

theorem PD.of_pipes {m m' : Streams} (h : PD m)
    (hm : ∀ k rd', ilookup m' k = some rd' → ∃ rd, ilookup m k = some rd ∧ rd'.pipe = rd.pipe) : PD m' := by
  intro k j rd rd2 hk hj hne
  obtain ⟨r1, h1, p1⟩ := hm k rd hk
  obtain ⟨r2, h2, p2⟩ := hm j rd2 hj
  rw [p1, p2]; exact h k j r1 r2 h1 h2 hne

theorem Step.pd {ps ps' : Pipes} {m m' : Streams} {c : Ident → List Item}
    (a : Step ps m ps' m' c) (h : PD m) : PD m' :=
  h.of_pipes (fun k rd' hk => let ⟨rd, h1, p, _⟩ := a.old k rd' hk; ⟨rd, h1, p⟩)

theorem Step.frame {ps ps' : Pipes} (m : Streams) (h : ∀ j, inbufOf ps' j = inbufOf ps j) :
    Step ps m ps' m nilC :=
  ⟨fun k rd' hk => ⟨rd', hk, rfl, by simp [nilC, Rd.rem_frame rd' (h _)]⟩,
   fun k rd h1 h2 => (by rw [h1] at h2; cases h2), fun _ _ => rfl⟩

theorem Step.refl (ps : Pipes) (m : Streams) : Step ps m ps m nilC := Step.frame m fun _ => rfl

theorem Step.survives {ps ps' : Pipes} {m m' : Streams} (a : Step ps m ps' m' nilC) {k : Ident} {rd : Rd}
    (hk : ilookup m k = some rd) (hit : rd.items ps ≠ []) : ∃ rd', ilookup m' k = some rd' ∧ rd'.items ps' ≠ [] := by
  cases hk' : ilookup m' k with
  | none => exact (hit (a.gone k rd hk hk')).elim
  | some rd' =>
    obtain ⟨rd0, h0, _, e⟩ := a.old k rd' hk'
    cases h0.symm.trans hk
    exact ⟨rd', rfl, by rw [Rd.items_of_rem e] at hit; exact hit⟩

theorem Step.put {ps ps' : Pipes} {m : Streams} (hpd : PD m) {k : Ident} {rd rd' : Rd} (hk : ilookup m k = some rd)
    (hp : rd'.pipe = rd.pipe) (hfr : ∀ j, j ≠ rd.pipe → inbufOf ps' j = inbufOf ps j) {l : List Item}
    (hl : rd.rem ps = (rd'.rem ps').pre l) :
    Step ps m ps' (ierase m k ++ [(k, rd')]) (fun j => if j = k then l else []) := by
  refine ⟨fun j rdj h => ?_, fun j rdj h hn => ?_, fun j hn => ?_⟩
  · by_cases hj : j = k
    · subst hj
      rw [ilookup_putback_same] at h; cases h
      exact ⟨rd, hk, hp, by simp [hl]⟩
    · rw [ilookup_putback_other _ _ _ _ hj] at h
      exact ⟨rdj, h, rfl, by simp [hj, Rd.rem_frame rdj (hfr _ (hpd j k rdj rd h hk hj))]⟩
  · by_cases hj : j = k
    · subst hj; rw [ilookup_putback_same] at hn; cases hn
    · rw [ilookup_putback_other _ _ _ _ hj, h] at hn; cases hn
  · have : j ≠ k := fun e => by subst e; rw [hk] at hn; cases hn
    simp [this]

theorem Step.drop {ps ps' : Pipes} {m : Streams} (hpd : PD m) {k : Ident} {rd : Rd} (hk : ilookup m k = some rd)
    (hfr : ∀ j, j ≠ rd.pipe → inbufOf ps' j = inbufOf ps j) (h0 : rd.items ps = []) :
    Step ps m ps' (ierase m k) nilC := by
  refine ⟨fun j rdj h => ?_, fun j rdj h hn => ?_, fun _ _ => rfl⟩
  · have hj : j ≠ k := fun e => by subst e; rw [ilookup_ierase_same] at h; cases h
    rw [ilookup_ierase_other _ _ _ hj] at h
    exact ⟨rdj, h, rfl, by simp [nilC, Rd.rem_frame rdj (hfr _ (hpd j k rdj rd h hk hj))]⟩
  · by_cases hj : j = k
    · subst hj; rw [hk] at h; cases h; exact h0
    · rw [ilookup_ierase_other _ _ _ hj, h] at hn; cases hn

theorem Step.reader {ps : Pipes} {m : Streams} (hpd : PD m) {k : Ident} {rd : Rd} (hk : ilookup m k = some rd)
    {fuel : Nat} {who : RWaker} (hf : (inbufOf ps rd.pipe).length < fuel) {r : ReadRes} {ps' : Pipes} {rd' : Rd}
    (h : readerPoll fuel ps rd who = (r, ps', rd')) :
    match (generalizing := false) r with
    | .item i => Step ps m ps' (ierase m k ++ [(k, rd')]) (oneC k i)
    | .pending => Step ps m ps' (ierase m k ++ [(k, rd')]) nilC
    | _ => Step ps m ps' (ierase m k) nilC := by
  obtain ⟨hp, hfr, hres⟩ := readerPoll_spec fuel ps rd who hf r ps' rd' h
  cases r with
  | item i => exact Step.put hpd hk hp hfr hres
  | pending => exact (Step.put hpd hk hp hfr (l := []) (by simpa using hres.1)).congr_c (fun _ => by simp [nilC])
  | eof => exact Step.drop hpd hk hfr hres
  | err e => exact Step.drop hpd hk hfr hres

theorem Step.forget {ps ps1 : Pipes} {m : Streams} {s1 : Socket} {k : Ident}
    (h : hasFq s1.typ = true ∨ ilookup s1.fqStreams k = none) (hpost : Step ps m ps1 (ierase s1.fqStreams k) nilC) :
    Step ps m (peerDisconnected ps1 s1 k).1 (peerDisconnected ps1 s1 k).2.fqStreams nilC := by
  rw [peerDisconnected_fqStreams _ _ _ h]
  exact hpost.trans (Step.frame _ (peerDisconnected_inbuf ps1 s1 k))

theorem Step.stream_end {ps ps0 : Pipes} {m : Streams} {s2 : Socket} {k : Ident} (p : Nat)
    (hrd : Step ps m ps0 (ierase m k) nilC) (h2 : s2.fqStreams = ierase m k) :
    Step ps m (peerDisconnected (dropR ps0 p) s2 k).1 (peerDisconnected (dropR ps0 p) s2 k).2.fqStreams nilC := by
  refine Step.forget (.inr (by rw [h2]; exact ilookup_ierase_same _ _)) ?_
  rw [h2, ierase_ierase]
  exact hrd.trans (Step.frame _ (inbufOf_dropR ps0 p))

theorem PD.putback {m : Streams} (h : PD m) {k : Ident} {rd rd' : Rd} (hk : ilookup m k = some rd)
    (hp : rd'.pipe = rd.pipe) : PD (ierase m k ++ [(k, rd')]) :=
  h.of_pipes (fun j rdj hj => by
    by_cases e : j = k
    · subst e; rw [ilookup_putback_same] at hj; cases hj; exact ⟨rd, hk, hp⟩
    · rw [ilookup_putback_other _ _ _ _ e] at hj; exact ⟨rdj, hj, rfl⟩)

/-- what a call of `poll_next` did to the streams, by result -/
def FqPost (ps : Pipes) (m : Streams) (r : FqRes) (ps' : Pipes) (m' : Streams) : Prop :=
  match r with
  | .pending => Step ps m ps' m' nilC
  | .got k (.item i) => Step ps m ps' m' (oneC k i)
  | .got k (.err _) => Step ps m ps' (ierase m' k) nilC
  | .got _ _ => False          -- `Ready(Some((k, Pending)))` does not exist

theorem FqPost.pre {ps ps0 ps' : Pipes} {m m0 m' : Streams} {r : FqRes}
    (a : Step ps m ps0 m0 nilC) (b : FqPost ps0 m0 r ps' m') : FqPost ps m r ps' m' := by
  cases r with
  | pending => exact a.trans b
  | got k rr =>
    cases rr with
    | item i => exact a.trans b
    | pending => exact b.elim
    | eof => exact b.elim
    | err e => exact a.trans b

/-- **What `poll_next` may do to the socket**: its own bookkeeping (heap, streams, ticket counter) and forgetting peers
whose streams ended — so whatever both preserve holds of the socket it returns. -/
theorem fqPoll_sock_ind {P : Socket → Prop}
    (hfq : ∀ s h m c, P s → P { s with fqHeap := h, fqStreams := m, fqCounter := c })
    (hforget : ∀ ps s k, P s → P (peerDisconnected ps s k).2)
    (fuel : Nat) (ps : Pipes) (sid : Nat) (s : Socket) (h0 : P s) : P (fqPoll fuel ps sid s).2.2 := by
  induction fuel generalizing ps s with
  | zero => exact h0
  | succ fuel ih =>
    unfold fqPoll
    split
    · exact h0
    · simp only
      split
      · exact ih _ _ (hfq _ _ _ _ h0)
      · generalize readerPoll _ _ _ _ = rp
        obtain ⟨r, ps', rd'⟩ := rp
        cases r with
        | pending => exact ih _ _ (hfq _ _ _ _ h0)
        | eof => exact ih _ _ (hforget _ _ _ (hfq _ _ _ _ h0))
        | item i => exact hfq _ _ _ _ h0
        | err e => exact hfq _ _ _ _ h0

theorem fqPoll_typ (fuel : Nat) (ps : Pipes) (sid : Nat) (s : Socket) :
    (fqPoll fuel ps sid s).2.2.typ = s.typ :=
  fqPoll_sock_ind (P := fun s' => s'.typ = s.typ) (fun _ _ _ _ h => h) (fun _ _ _ h => (peerDisconnected_typ _ _ _).trans h)
    fuel ps sid s rfl

/-- One call of the fair queue's `poll_next`: the item it returns is the next item of the stream
of the connection it names, and it is taken from that stream only; whatever else the call did
(stale events, streams that were `Pending`, streams that ended and whose peers were forgotten)
took nothing from anybody.  When it returns an error for `k`, that stream has nothing complete
left (the relation is stated for the map without `k`, which is how `recv` leaves it). -/
theorem fqPoll_spec (fuel : Nat) (ps : Pipes) (sid : Nat) (s : Socket) (hpd : PD s.fqStreams)
    (r : FqRes) (ps' : Pipes) (s' : Socket) (h : fqPoll fuel ps sid s = (r, ps', s')) :
    s'.typ = s.typ ∧ PD s'.fqStreams ∧ FqPost ps s.fqStreams r ps' s'.fqStreams := by
  obtain ⟨rfl, rfl, rfl⟩ : (fqPoll fuel ps sid s).1 = r ∧ (fqPoll fuel ps sid s).2.1 = ps' ∧
      (fqPoll fuel ps sid s).2.2 = s' := by rw [h]; exact ⟨rfl, rfl, rfl⟩
  clear h
  refine ⟨fqPoll_typ fuel ps sid s, ?_⟩
  revert hpd
  fun_induction fqPoll fuel ps sid s
  case case1 => exact fun hpd => ⟨hpd, Step.refl _ _⟩
  case case2 => exact fun hpd => ⟨hpd, Step.refl _ _⟩
  case case3 ih => exact ih
  case case4 ps sid s t k rest _ s1 rd hl s2 ps0 rd0 hrp ih =>
    -- the stream is `Pending`: put back, the loop goes on
    intro hpd
    have hrd := Step.reader hpd hl (readFuel_ok ps rd) hrp
    obtain ⟨g2, g3⟩ := ih (hrd.pd hpd)
    exact ⟨g2, FqPost.pre hrd g3⟩
  case case5 ps sid s t k rest _ s1 rd hl s2 ps0 rd0 ps2 s3 hforget hrp ih =>
    -- the stream has ended: it is not put back
    intro hpd
    have hrd := Step.reader hpd hl (readFuel_ok ps rd) hrp
    obtain ⟨rfl, rfl⟩ := Prod.ext_iff.mp hforget
    have total := Step.stream_end (s2 := s2) rd0.pipe hrd rfl
    obtain ⟨g2, g3⟩ := ih (total.pd hpd)
    exact ⟨g2, FqPost.pre total g3⟩
  case case6 ps sid s t k rest _ s1 rd hl s2 ps0 rd0 res hnp hne hrp =>
    -- an item or an error: handed out, the stream is put back
    intro hpd
    have hp := (readerPoll_spec _ ps rd _ (readFuel_ok ps rd) res ps0 rd0 hrp).1
    have hrd := Step.reader hpd hl (readFuel_ok ps rd) hrp
    cases res with
    | pending => exact (hnp rfl).elim
    | eof => exact (hne rfl).elim
    | item i => exact ⟨hrd.pd hpd, hrd⟩
    | err e =>
      refine ⟨PD.putback hpd hl hp, ?_⟩
      show Step _ _ _ (ierase (ierase _ k ++ [(k, rd0)]) k) nilC
      rwa [ierase_putback]

def msgsOf (l : List Item) : List Msg :=
  l.filterMap (fun i => match i with | .message m => some m | _ => none)

theorem msgsOf_append (a b : List Item) : msgsOf (a ++ b) = msgsOf a ++ msgsOf b := by
  simp [msgsOf, List.filterMap_append]

/-- what the socket type does to a message before the application sees it (`none` = the message
violates the type's envelope rule and is reported as an error) -/
def deliver (t : SockType) (k : Ident) (m : Msg) : Option Msg :=
  match t with
  | .router => some (routerIn k m)
  | .rep => (repSplit m).map (·.2)
  | _ => some m

/-- one `recv` poll against the items it took (`c k` = taken from connection `k`) -/
def RecvPost (t : SockType) (c : Ident → List Item) (o : POut) : Prop :=
  match o with
  | .pending => ∀ k, msgsOf (c k) = []
  | .ready (.okMsg m) =>
      ∃ k m0, msgsOf (c k) = [m0] ∧ deliver t k m0 = some m ∧ ∀ j, j ≠ k → msgsOf (c j) = []
  | .ready (.err _) =>
      (∀ k, msgsOf (c k) = []) ∨
      (∃ k m0, msgsOf (c k) = [m0] ∧ deliver t k m0 = none ∧ ∀ j, j ≠ k → msgsOf (c j) = [])
  | .ready _ => False

theorem RecvPost.congr {t : SockType} {c1 c2 : Ident → List Item} {o : POut}
    (h : ∀ j, msgsOf (c2 j) = msgsOf (c1 j)) (a : RecvPost t c1 o) : RecvPost t c2 o := by
  unfold RecvPost at a ⊢
  simp only [h]
  exact a

theorem msgsOf_oneC_msg (k j : Ident) (m : Msg) :
    msgsOf (oneC k (.message m) j) = if j = k then [m] else [] := by
  unfold oneC; split <;> rfl

/-- the one message taken, for either `RecvPost` case that has one (`d` = what `deliver` made of it) -/
theorem RecvPost.one (t : SockType) (k : Ident) (m : Msg) (d : Option Msg) (hd : deliver t k m = d) :
    ∃ k' m0, msgsOf (oneC k (.message m) k') = [m0] ∧ deliver t k' m0 = d ∧
      ∀ j, j ≠ k' → msgsOf (oneC k (.message m) j) = [] :=
  ⟨k, m, by simp [msgsOf_oneC_msg], hd, fun j hj => by simp [msgsOf_oneC_msg, hj]⟩

theorem deliver_other (t : SockType) (k : Ident) (m : Msg) (h1 : t ≠ .router) (h2 : t ≠ .rep) :
    deliver t k m = some m := by
  unfold deliver
  split
  · exact (h1 rfl).elim
  · exact (h2 rfl).elim
  · rfl

/-- **One poll of `recv`** (PULL, SUB, DEALER, ROUTER, REP, XPUB), against the byte streams of the
socket's connections.  The items taken off each connection's stream during the poll (`c k`) are
a prefix of that stream's items (relation `Step`); among everything taken there is AT MOST ONE
message, and there is exactly one iff the poll returns it (as the socket type presents it) or —
REP only — rejects it with an error; every other item taken is a command or greeting, which
the loop ignores.  `Pending` takes no message from anybody. -/
theorem recvPoll_spec (fuel : Nat) (w : World) (sid : Nat) (s : Socket) (hs : getSock w sid = some s)
    (hfq : hasFq s.typ = true) (hpd : PD s.fqStreams) (w' : World) (o : POut)
    (h : recvPoll fuel w sid = (w', o)) :
    ∃ s' c, getSock w' sid = some s' ∧ s'.typ = s.typ ∧ PD s'.fqStreams ∧
      Step w.pipes s.fqStreams w'.pipes s'.fqStreams c ∧ RecvPost s.typ c o := by
  induction fuel generalizing w s with
  | zero => cases h; exact ⟨s, nilC, hs, rfl, hpd, Step.refl _ _, fun _ => rfl⟩
  | succ fuel ih =>
    rcases hq : fqPoll (s.fqHeap.length + 2) w.pipes sid s with ⟨r, ps1, s1⟩
    obtain ⟨htyp, hpd1, hpost⟩ := fqPoll_spec _ _ _ _ hpd _ _ _ hq
    have hs1 : getSock (setSock { w with pipes := ps1 } sid s1) sid = some s1 := getSock_setSock_same _ _ _
    rw [recvPoll] at h
    simp only [hs, hq] at h
    rw [← htyp] at hfq ⊢
    split at h
    · cases h; exact ⟨s1, nilC, hs1, rfl, hpd1, hpost, fun _ => rfl⟩
    · -- a message
      rename_i k m
      split at h
      · rename_i hty
        cases h
        exact ⟨s1, _, hs1, rfl, hpd1, hpost, RecvPost.one _ _ _ _ (by rw [hty]; rfl)⟩
      · rename_i hty
        split at h
        · rename_i hsp
          cases h
          exact ⟨s1, _, hs1, rfl, hpd1, hpost, Or.inr (RecvPost.one _ _ _ _ (by rw [hty]; simp [deliver, hsp]))⟩
        · rename_i env data hsp
          cases h
          exact ⟨_, _, getSock_setSock_same _ _ _, rfl, hpd1, hpost, RecvPost.one _ _ _ _ (by rw [hty]; simp [deliver, hsp])⟩
      · rename_i hty
        cases h
        refine ⟨_, oneC k (.message m), getSock_setSock_same _ _ _, ?_, ?_, ?_, RecvPost.one _ _ _ _ (by rw [hty]; rfl)⟩
        -- the subscription bookkeeping touches neither the type nor the streams
        · split <;> rfl
        · split <;> exact hpd1
        · split <;> exact hpost
      · rename_i h1 h2 _
        cases h
        exact ⟨s1, _, hs1, rfl, hpd1, hpost, RecvPost.one _ _ _ _ (deliver_other _ _ _ h1 h2)⟩
    · -- a greeting or command: taken from `k`, ignored, and the loop goes on
      rename_i k i hni
      obtain ⟨s', c, g1, g2, g3, g4, g5⟩ := ih _ s1 hs1 hfq hpd1 h
      refine ⟨s', _, g1, g2, g3, hpost.trans g4, g5.congr (fun j => ?_)⟩
      unfold oneC; split
      · cases i with
        | message m => exact (hni m rfl).elim
        | greeting g => rfl
        | command p => rfl
      · rfl
    · -- an error: the peer is forgotten; ROUTER swallows the error and goes on
      rename_i k e
      have total := Step.forget (.inl hfq) hpost
      have htyp2 := peerDisconnected_typ ps1 s1 k
      split at h
      · obtain ⟨s', c, g1, g2, g3, g4, g5⟩ := ih _ _ (getSock_setSock_same _ _ _) (htyp2 ▸ hfq) (total.pd hpd) h
        exact ⟨s', c, g1, g2.trans htyp2, g3, total.trans g4, htyp2 ▸ g5⟩
      · cases h
        exact ⟨_, nilC, getSock_setSock_same _ _ _, htyp2, total.pd hpd, total, Or.inl (fun _ => rfl)⟩
    · -- `poll_next` returns an item or an error for the connection it names, nothing else
      rename_i k r _ hni hne
      cases r with
      | item i => exact (hni i rfl).elim
      | err e => exact (hne e rfl).elim
      | pending => exact hpost.elim
      | eof => exact hpost.elim

end Zmq.W
