import ZmqVerif.Model.FairQueue
/-! The event heap as a multiset: `popMin` takes a least element out of a permutation, and `cnt`
is a `countP`, so the counting facts are core's. -/
namespace Zmq.FQ

@[simp] theorem cnt_nil (k) : cnt [] k = 0 := rfl

theorem cnt_eq_countP (h : List (Nat × Nat)) (k : Nat) : cnt h k = h.countP (·.2 = k) :=
  List.countP_eq_length_filter.symm

@[simp] theorem cnt_cons (e : Nat × Nat) (h k) : cnt (e :: h) k = (if e.2 = k then 1 else 0) + cnt h k := by
  simp [cnt_eq_countP, List.countP_cons, Nat.add_comm]

theorem evs_eq (s : St) (k) : evs s k = cnt s.heap k := rfl

theorem cnt_pos_iff {h : List (Nat × Nat)} {k : Nat} : 0 < cnt h k ↔ ∃ t, (t, k) ∈ h := by
  simp [cnt_eq_countP, List.countP_pos_iff]

theorem popMin_none {h} (hp : popMin h = none) : h = [] := by
  cases h with
  | nil => rfl
  | cons e es =>
    simp only [popMin] at hp
    split at hp
    · simp at hp
    · split at hp <;> simp at hp

theorem popMin_some {h e rest} (hp : popMin h = some (e, rest)) :
    h.Perm (e :: rest) ∧ ∀ x ∈ h, e.1 ≤ x.1 := by
  induction h generalizing e rest with
  | nil => simp [popMin] at hp
  | cons x xs ih =>
    simp only [popMin] at hp
    split at hp
    · rename_i hn
      obtain ⟨rfl, rfl⟩ := by simpa using hp
      simp [popMin_none hn]
    · rename_i m r hm
      obtain ⟨hperm, hmin⟩ := ih hm
      split at hp <;> rename_i hle <;> obtain ⟨rfl, rfl⟩ := by simpa using hp
      · exact ⟨.refl _, fun y hy => by
          rcases List.mem_cons.1 hy with rfl | hy
          · exact Nat.le_refl _
          · exact Nat.le_trans hle (hmin y hy)⟩
      · exact ⟨(hperm.cons x).trans (.swap ..), fun y hy => by
          rcases List.mem_cons.1 hy with rfl | hy
          · omega
          · exact hmin y hy⟩

theorem popMin_cnt {h e rest} (hp : popMin h = some (e, rest)) (k : Nat) :
    cnt h k = (if e.2 = k then 1 else 0) + cnt rest k := by
  rw [cnt_eq_countP, (popMin_some hp).1.countP_eq, ← cnt_eq_countP, cnt_cons]

theorem popMin_mem_iff {h e rest} (hp : popMin h = some (e, rest)) (x : Nat × Nat) :
    x ∈ h ↔ x = e ∨ x ∈ rest := by
  rw [(popMin_some hp).1.mem_iff, List.mem_cons]

theorem popMin_length {h : List (Nat × Nat)} {e rest} (hp : popMin h = some (e, rest)) :
    rest.length + 1 = h.length := by
  rw [(popMin_some hp).1.length_eq, List.length_cons]

end Zmq.FQ
