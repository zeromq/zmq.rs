import ZmqVerif.Lemmas.FQInv
/-! Conservation: what a stream was given = what was delivered from it ++ what the receiver
holds in flight ++ what it can still yield.  Holds for every interleaving. -/
namespace Zmq.FQ

/-- the item the receiver has taken from stream `k` and not yet returned (between B and C) -/
def inflight (s : St) (k : Nat) : List Nat :=
  match s.pc with
  | .c _ k' (.some item) => if k' = k then [item] else []
  | _ => []

/-- what `poll_next` has returned for key `k`, in order -/
def deliveredOf (s : St) (k : Nat) : List Nat := (s.out.filter (fun e => e.1 = k)).map (·.2)

def Cons (s : St) : Prop := ∀ k, deliveredOf s k ++ inflight s k ++ (s.peer k).q = s.hist k

theorem cons_init : Cons ({} : St) := by intro k; simp [deliveredOf, inflight]

theorem cons_step (s : St) (op : Op) (h : Cons s) : Cons (step s op) := by
  have tr := step_tr s op
  generalize step s op = s' at tr ⊢
  intro j
  have hj := h j
  unfold deliveredOf inflight at hj ⊢
  cases tr with
  | skip | insert | exhaust | setWaker | stale => exact hj
  | feed _ k l | feedFire _ k l =>
    show _ ++ _ ++ (upd s.peer k _ j).q = upd s.hist k _ j
    by_cases e : j = k
    · subst e; rw [upd_same, upd_same, ← hj]; simp only [List.append_assoc]
    · rw [upd_other _ _ _ _ e, upd_other _ _ _ _ e]; exact hj
  | remove k =>
    show _ ++ _ ++ (upd s.peer k _ j).q = _
    rw [upd_peer_q]; exact hj
  | item t k i q' hpc _ hq =>
    -- the item moves from the stream into flight
    rw [hpc] at hj
    by_cases e : k = j
    · subst e; simpa [hq] using hj
    · simpa [upd, e, Ne.symm e] using hj
  | arm t k hpc =>
    rw [hpc] at hj
    show _ ++ _ ++ (upd s.peer k _ j).q = _
    rw [upd_peer_q]; exact hj
  | deliver t k i hpc =>
    -- … and from flight to `out`
    rw [hpc] at hj
    by_cases e : k = j
    · subst e; simp [← hj]
    · simpa [e] using hj
  | pollStart hpc => rcases hpc with hpc | hpc <;> rw [hpc] at hj <;> exact hj
  | park hpc | yield _ _ _ hpc | checkout _ _ _ hpc | selfWake _ _ hpc | eof _ _ hpc | drop _ _ hpc
  | putBack _ _ hpc => rw [hpc] at hj; exact hj

theorem reachable_cons (ops : List Op) : Cons (ops.foldl step {}) :=
  List.foldl_inv cons_step ops cons_init

theorem reachable_prefix (ops : List Op) (k : Nat) :
    deliveredOf (ops.foldl step {}) k <+: (ops.foldl step {}).hist k :=
  ⟨_, by rw [← List.append_assoc]; exact reachable_cons ops k⟩

end Zmq.FQ
