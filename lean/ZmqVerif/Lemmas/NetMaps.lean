import ZmqVerif.Model.Net
namespace Zmq.Net

theorem lookupN_insertN_same {α} (m : List (Nat × α)) (k : Nat) (v : α) : lookupN (insertN m k v) k = some v := by
  induction m with
  | nil => simp [insertN, lookupN]
  | cons e t ih =>
    simp only [insertN]
    split
    · simp [lookupN]
    · rename_i h; simp [lookupN, h, ih]

theorem lookupN_insertN_other {α} (m : List (Nat × α)) (k j : Nat) (v : α) (h : j ≠ k) :
    lookupN (insertN m k v) j = lookupN m j := by
  have hkj : (k == j) = false := by simpa using fun x => h x.symm
  induction m with
  | nil => simp [insertN, lookupN, hkj]
  | cons e t ih =>
    simp only [insertN]
    split
    · rename_i he
      have : e.1 = k := by simpa using he
      have hej : (e.1 == j) = false := by rw [this]; exact hkj
      simp [lookupN, hkj, hej]
    · simp only [lookupN, ih]

theorem emit_raws (s : St) (sid : Nat) (ev : String) : (emit s sid ev).raws = s.raws := by
  unfold emit
  split
  · split <;> rfl
  · rfl

theorem emit_eps (s : St) (sid : Nat) (ev : String) : (emit s sid ev).eps = s.eps := by
  unfold emit
  split
  · split <;> rfl
  · rfl

theorem emit_binds (s : St) (sid : Nat) (ev : String) (j : Nat) :
    (lookupN (emit s sid ev).socks j).map (fun x => (x.binds, x.alive, x.typ)) =
    (lookupN s.socks j).map (fun x => (x.binds, x.alive, x.typ)) := by
  unfold emit
  split
  · rename_i so hso
    split
    · by_cases hj : j = sid
      · subst hj; simp [lookupN_insertN_same, hso]
      · simp [lookupN_insertN_other _ _ _ _ hj]
    · rfl
  · rfl

theorem lookup_emit_same (s : St) (sid : Nat) (ev : String) :
    lookupN (emit s sid ev).socks sid =
      (lookupN s.socks sid).map (fun so => if so.monitor then { so with events := so.events ++ [ev] } else so) := by
  unfold emit
  cases h : lookupN s.socks sid with
  | none => simp [h]
  | some so =>
    simp only [Option.map_some]
    by_cases hm : so.monitor
    · simp [hm, lookupN_insertN_same]
    · simp [hm, h]

end Zmq.Net
