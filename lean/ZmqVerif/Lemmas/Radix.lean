import ZmqVerif.Model.Ip
/-! Numbers in text, once for every radix: `showNatAux`/`showHexAux` are one function `showR`, and
`readNumber` reads back what it prints.  The decimal and the hexadecimal facts of IPv4, IPv6 and the
port are instances. -/
namespace Zmq.Ip

theorem not_mem_of_all {p : Char → Bool} {s : Str} {c : Char} (hs : s.all p = true) (hc : p c = false) :
    c ∉ s := fun hm => by simp [List.all_eq_true.1 hs c hm] at hc

def Stops (p : Char → Bool) (rest : Str) : Prop := ∀ c ∈ rest.head?, p c = false

theorem stops_nil (p : Char → Bool) : Stops p [] := fun _ h => nomatch h

theorem Stops.takeWhile {p : Char → Bool} {rest : Str} (h : Stops p rest) : rest.takeWhile p = [] := by
  cases rest with
  | nil => rfl
  | cons c r => simp [h c rfl]

theorem Stops.dropWhile {p : Char → Bool} {rest : Str} (h : Stops p rest) : rest.dropWhile p = rest := by
  cases rest with
  | nil => rfl
  | cons c r => simp [h c rfl]

theorem head?_dropWhile_app {p : Char → Bool} {xs rest : Str} {c : Char} (hr : Stops p rest)
    (h : ((xs ++ rest).dropWhile p).head? = some c) : c ∈ xs ∨ rest.head? = some c := by
  induction xs with
  | nil => exact .inr (by simpa [hr.dropWhile] using h)
  | cons x xs ih =>
    simp only [List.cons_append, List.dropWhile_cons] at h
    split at h
    · exact (ih h).imp (List.mem_cons_of_mem _) id
    · exact .inl (by simp at h; simp [h])

def showR (r : Nat) (dig : Nat → Char) : Nat → Nat → Str
  | 0, _ => []
  | fuel+1, n => if n < r then [dig n] else showR r dig fuel (n / r) ++ [dig (n % r)]

def decDigit (d : Nat) : Char := Char.ofNat (d + 48)

section
variable {r : Nat} {dig : Nat → Char} (hr : 1 < r)
include hr

theorem showR_all {p : Char → Bool} (hp : ∀ d : Fin r, p (dig d) = true) :
    ∀ fuel n, (showR r dig fuel n).all p = true
  | 0, _ => rfl
  | fuel+1, n => by
    simp only [showR]; split
    · simpa using hp ⟨n, ‹_›⟩
    · simp [showR_all hp fuel, hp ⟨_, Nat.mod_lt n (by omega)⟩]

theorem showR_foldl {val : Char → Nat} (hv : ∀ d : Fin r, val (dig d) = d) :
    ∀ fuel n, n < fuel → (showR r dig fuel n).foldl (fun a c => a * r + val c) 0 = n
  | fuel+1, n, h => by
    simp only [showR]; split
    · simp [hv ⟨n, ‹_›⟩]
    · have : n / r < n := Nat.div_lt_self (by omega) hr
      rw [List.foldl_append, showR_foldl hv fuel (n / r) (by omega)]
      simp [hv ⟨_, Nat.mod_lt n (by omega)⟩, Nat.div_add_mod']

omit hr in
theorem showR_ne (fuel n : Nat) : showR r dig (fuel + 1) n ≠ [] := by
  simp only [showR]; split <;> simp

omit hr in
theorem showR_length : ∀ fuel n k, n < r ^ k → 0 < k → (showR r dig fuel n).length ≤ k
  | 0, _, _, _, hk => by simp [showR]
  | fuel+1, n, k+1, h, _ => by
    simp only [showR]; split
    · simp
    · have hk : 0 < k := by
        rcases k with _ | k
        · simp at h; omega
        · omega
      have := showR_length fuel (n / r) k (Nat.div_lt_of_lt_mul (by rw [Nat.pow_succ, Nat.mul_comm] at h; exact h)) hk
      simpa using this

theorem showR_head : ∀ fuel n, n < fuel → 0 < n →
    ∃ d : Fin r, 0 < d.val ∧ (showR r dig fuel n).head? = some (dig d)
  | fuel+1, n, h, h0 => by
    simp only [showR]; split
    · exact ⟨⟨n, ‹_›⟩, h0, rfl⟩
    · have h1 : n / r < n := Nat.div_lt_self (by omega) hr
      have h2 : 0 < n / r := Nat.div_pos (by omega) (by omega)
      obtain ⟨d, hd0, hd⟩ := showR_head fuel (n / r) (by omega) h2
      exact ⟨d, hd0, by simp [List.head?_append, hd]⟩
end

/-- the character class `read_number(r, ..)` consumes -/
abbrev isDig (r : Nat) (c : Char) : Bool := (digVal r c).isSome

theorem readNumber_digits {r maxD bound : Nat} {z : Bool} {ds rest : Str}
    (hd : ds.all (isDig r) = true) (hs : Stops (isDig r) rest)
    (hne : ds ≠ []) (hlen : ds.length ≤ maxD) (hz : z = true ∨ ds.head? ≠ some '0' ∨ ds.length = 1)
    (hb : ds.foldl (fun a c => a * r + (digVal r c).getD 0) 0 < bound) :
    readNumber r maxD bound z (ds ++ rest) =
      some (ds.foldl (fun a c => a * r + (digVal r c).getD 0) 0, rest) := by
  have hd := List.all_eq_true.1 hd
  have hl : ¬ (ds.length = 0 ∨ ds.length > maxD) := by
    have : ds.length ≠ 0 := by simpa using hne
    omega
  have hz' : (!z && ds.head? == some '0' && decide (ds.length > 1)) = false := by
    rcases hz with rfl | h | h
    · rfl
    · simp [h]
    · simp [h]
  unfold readNumber
  simp only [List.takeWhile_append_of_pos hd, List.dropWhile_append_of_pos hd, hs.takeWhile, hs.dropWhile,
    List.append_nil, hl, hz', hb, ↓reduceIte, Bool.false_eq_true]

theorem readNumber_rest {r maxD bound : Nat} {z : Bool} {s : Str} {v : Nat} {rest : Str}
    (h : readNumber r maxD bound z s = some (v, rest)) : rest = s.dropWhile (isDig r) := by
  simp only [readNumber, Option.ite_none_left_eq_some, Option.ite_none_right_eq_some, Option.some.injEq,
    Prod.mk.injEq] at h
  exact h.2.2.2.2.symm

theorem readNumber_none {r maxD bound : Nat} {z : Bool} {s : Str} (h : Stops (isDig r) s) :
    readNumber r maxD bound z s = none := by
  simp [readNumber, h.takeWhile]

/-- `read_number` gives back the number that was printed in front of `rest` -/
theorem readNumber_showR {r maxD bound : Nat} {z : Bool} {dig : Nat → Char} (hr : 1 < r)
    (hdig : ∀ d : Fin r, digVal r (dig d) = some d.val) {n : Nat} (hn : n < r ^ maxD) (hmax : 0 < maxD)
    (hb : n < bound) {rest : Str} (hs : Stops (isDig r) rest) :
    readNumber r maxD bound z (showR r dig (n + 1) n ++ rest) = some (n, rest) := by
  have hv := showR_foldl hr (dig := dig) (val := fun c => (digVal r c).getD 0)
    (fun d => by simp [hdig d]) (n + 1) n (by omega)
  have hall : (showR r dig (n + 1) n).all (isDig r) = true :=
    showR_all hr (fun d => by simp [isDig, hdig d]) _ _
  -- no leading zero: `0` is one character; a positive number starts with `dig d`, `0 < d`, which
  -- is not `'0'` since `digVal` gives `d` back
  have hz : z = true ∨ (showR r dig (n + 1) n).head? ≠ some '0' ∨ (showR r dig (n + 1) n).length = 1 := by
    rcases Nat.eq_zero_or_pos n with rfl | h0
    · exact .inr (.inr (by simp [showR, show 0 < r by omega]))
    · obtain ⟨d, hd0, hd⟩ := showR_head hr (dig := dig) (n + 1) n (by omega) h0
      have h0' : digVal r '0' = some 0 := by
        have : hexVal '0' = some 0 := by decide
        simp [digVal, this]; omega
      refine .inr (.inl fun e => ?_)
      have := hdig d
      rw [Option.some.inj (hd.symm.trans e), h0'] at this
      exact absurd (Option.some.inj this) (by omega)
  rw [readNumber_digits hall hs (showR_ne _ _) (showR_length _ _ _ hn hmax) hz (by rw [hv]; exact hb), hv]

theorem showNat_eq (n : Nat) : showNat n = showR 10 decDigit (n + 1) n := by
  unfold showNat
  generalize n + 1 = fuel
  induction fuel generalizing n with
  | zero => rfl
  | succ f ih => simp only [showNatAux, showR, ih, decDigit]

theorem showHex_eq (n : Nat) : showHex n = showR 16 hexDigitChar (n + 1) n := by
  unfold showHex
  generalize n + 1 = fuel
  induction fuel generalizing n with
  | zero => rfl
  | succ f ih => simp only [showHexAux, showR, ih]

theorem readOctet {n : Nat} (hn : n < 256) {rest : Str} (hs : Stops (isDig 10) rest) :
    readNumber 10 3 256 false (showNat n ++ rest) = some (n, rest) :=
  showNat_eq n ▸ readNumber_showR (by omega) (by decide) (by omega) (by omega) hn hs

theorem readGroupHex {g : Nat} (hg : g < 65536) {rest : Str} (hs : Stops (isDig 16) rest) :
    readNumber 16 4 65536 true (showHex g ++ rest) = some (g, rest) :=
  showHex_eq g ▸ readNumber_showR (by omega) (by decide) (by simpa using hg) (by omega) hg hs

theorem showNat_ne (n : Nat) : showNat n ≠ [] := showNat_eq n ▸ showR_ne _ _

theorem showHex_ne (n : Nat) : showHex n ≠ [] := showHex_eq n ▸ showR_ne _ _

theorem showNat_all {p : Char → Bool} (hp : ∀ d : Fin 10, p (decDigit d.val) = true) (n : Nat) :
    (showNat n).all p = true :=
  showNat_eq n ▸ showR_all (by omega) hp _ _

theorem showHex_all {p : Char → Bool} (hp : ∀ d : Fin 16, p (hexDigitChar d.val) = true) (n : Nat) :
    (showHex n).all p = true :=
  showHex_eq n ▸ showR_all (by omega) hp _ _

end Zmq.Ip
