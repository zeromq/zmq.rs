import ZmqVerif.Lemmas.WorldPubReader
namespace Zmq.W
open Zmq

theorem keep_or_gone_trans {α} {x y z : Option α} (h1 : x = none ∨ x = y) (h2 : y = none ∨ y = z) : x = none ∨ x = z := by
  rcases h1 with h1 | h1
  · left; exact h1
  · rcases h2 with h2 | h2
    · left; rw [h1, h2]
    · right; rw [h1, h2]

theorem fqPoll_subsOf (fuel : Nat) (ps : Pipes) (sid : Nat) (s : Socket) (j : Ident) :
    ilookup (fqPoll fuel ps sid s).2.2.subsOf j = none ∨
    ilookup (fqPoll fuel ps sid s).2.2.subsOf j = ilookup s.subsOf j :=
  fqPoll_sock_ind (P := fun s' => ilookup s'.subsOf j = none ∨ ilookup s'.subsOf j = ilookup s.subsOf j)
    (fun _ _ _ _ h => h) (fun ps s' k h => keep_or_gone_trans (peerDisconnected_subsOf_keep_or_gone ps s' k j) h)
    fuel ps sid s (.inr rfl)

/-- what one poll of an XPUB `recv` that returns `o` does to the subscription table: from `a` to `b` -/
def XpubPost (o : POut) (a b : List (Ident × List Bytes)) : Prop :=
  match o with
  | .ready (.okMsg m) => ∃ k, ∀ j,
      ilookup b j = none ∨ ilookup b j = ilookup a j ∨
      (j = k ∧ ∃ old, ilookup a k = some old ∧ ilookup b k = some (onMsg old m))
  | _ => ∀ j, ilookup b j = none ∨ ilookup b j = ilookup a j

theorem XpubPost.pre {o : POut} {a b c : List (Ident × List Bytes)}
    (h : ∀ j, ilookup b j = none ∨ ilookup b j = ilookup a j) (p : XpubPost o b c) : XpubPost o a c := by
  unfold XpubPost at p ⊢
  split
  · obtain ⟨k, hk⟩ := p
    refine ⟨k, fun j => ?_⟩
    rcases hk j with x | x | ⟨rfl, old, y, z⟩
    · exact .inl x
    · rcases h j with y | y
      · exact .inl (x.trans y)
      · exact .inr (.inl (x.trans y))
    · rcases h j with d | d
      · rw [y] at d; cases d
      · exact .inr (.inr ⟨rfl, old, d.symm.trans y, z⟩)
  · rename_i hno
    have p : ∀ j, ilookup c j = none ∨ ilookup c j = ilookup b j := by
      split at p
      · exact (hno _ rfl).elim
      · exact p
    exact fun j => keep_or_gone_trans (p j) (h j)

/-- **XPUB keeps its subscribers' lists exactly as PUB does, inside `recv`.**  After one poll of an XPUB `recv`:
every subscriber's list is what it was, or gone with its peer — except that when the poll returns a message, the
list of ONE subscriber (the sender, by `C05_world_recv`) has `onMsg` applied to exactly that message, which is handed
to the application verbatim. -/
theorem recvPoll_xpub_subs (fuel : Nat) (w : World) (sid : Nat) (s : Socket) (hs : getSock w sid = some s)
    (ht : s.typ = .xpub) (w' : World) (o : POut) (h : recvPoll fuel w sid = (w', o)) :
    ∃ s', getSock w' sid = some s' ∧
      (match (generalizing := false) o with
       | .ready (.okMsg m) => ∃ k, ∀ j,
           ilookup s'.subsOf j = none ∨ ilookup s'.subsOf j = ilookup s.subsOf j ∨
           (j = k ∧ ∃ old, ilookup s.subsOf k = some old ∧ ilookup s'.subsOf k = some (onMsg old m))
       | _ => ∀ j, ilookup s'.subsOf j = none ∨ ilookup s'.subsOf j = ilookup s.subsOf j) := by
  induction fuel generalizing w s with
  | zero => cases h; exact ⟨s, hs, fun _ => .inr rfl⟩
  | succ fuel ih =>
    rcases hq : fqPoll (s.fqHeap.length + 2) w.pipes sid s with ⟨r, ps1, s1⟩
    have ht1 : s1.typ = .xpub := by rw [← ht, ← fqPoll_typ _ w.pipes sid s, hq]
    have kept : ∀ j, ilookup s1.subsOf j = none ∨ ilookup s1.subsOf j = ilookup s.subsOf j := by
      have := fqPoll_subsOf (s.fqHeap.length + 2) w.pipes sid s; rwa [hq] at this
    have hs1 : getSock (setSock { w with pipes := ps1 } sid s1) sid = some s1 := getSock_setSock_same _ _ _
    rw [recvPoll] at h
    simp only [hs, hq, ht1] at h
    split at h
    · cases h; exact ⟨s1, hs1, kept⟩
    · -- a message from `k`: `onMsg` on `k`'s list, if it has one
      rename_i k m
      cases h
      refine ⟨_, getSock_setSock_same _ _ _, XpubPost.pre (o := .ready (.okMsg m)) kept ⟨k, fun j => ?_⟩⟩
      cases hk : ilookup s1.subsOf k with
      | none => exact .inr (.inl rfl)
      | some old =>
        by_cases hj : j = k
        · subst hj; exact .inr (.inr ⟨rfl, old, rfl, ilookup_iinsert_same _ _ _⟩)
        · exact .inr (.inl (ilookup_iinsert_other _ _ _ _ hj))
    · obtain ⟨s', g1, g2⟩ := ih _ s1 hs1 ht1 h
      exact ⟨s', g1, XpubPost.pre kept g2⟩
    · -- a failed stream: its peer is forgotten, and its list with it
      rename_i k e
      rw [if_neg (by rw [peerDisconnected_typ, ht1]; nofun)] at h
      cases h
      exact ⟨_, getSock_setSock_same _ _ _,
        fun j => keep_or_gone_trans (peerDisconnected_subsOf_keep_or_gone ps1 s1 k j) (kept j)⟩
    · cases h; exact ⟨s1, hs1, kept⟩

end Zmq.W
